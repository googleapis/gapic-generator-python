import GapicModel.Props.C16
#print axioms GapicModel.Props.C16.mem_ins
#print axioms GapicModel.Props.C16.visit_zero
#print axioms GapicModel.Props.C16.visit_succ
#print axioms GapicModel.Props.C16.from_closed
#print axioms GapicModel.Props.C16.filter_missing
#print axioms GapicModel.Props.C16.unv_mono
#print axioms GapicModel.Props.C16.unv_lt
#print axioms GapicModel.Props.C16.Pass.nil
#print axioms GapicModel.Props.C16.Pass.cons
#print axioms GapicModel.Props.C16.Pass.visitList
#print axioms GapicModel.Props.C16.Pass.target
#print axioms GapicModel.Props.C16.Pass.descend
#print axioms GapicModel.Props.C16.visit_pass
#print axioms GapicModel.Props.C16.findMethodIn_eq
#print axioms GapicModel.Props.C16.findMethodIn_some
#print axioms GapicModel.Props.C16.findMethodIn_self
#print axioms GapicModel.Props.C16.findMsg_none_of_not_mem
#print axioms GapicModel.Props.C16.mem_methods_of_service
#print axioms GapicModel.Props.C16.mem_methodAddrs
#print axioms GapicModel.Props.C16.mem_msgEdges
#print axioms GapicModel.Props.C16.msgEdges_not_meth
#print axioms GapicModel.Props.C16.mem_extEdges
#print axioms GapicModel.Props.C16.mem_methodEdges
#print axioms GapicModel.Props.C16.meth_edge_inv
#print axioms GapicModel.Props.C16.mem_roots
#print axioms GapicModel.Props.C16.succ_cases
#print axioms GapicModel.Props.C16.succ_of_msg
#print axioms GapicModel.Props.C16.forall_nodes_succ
#print axioms GapicModel.Props.C16.adm_of_admissible
#print axioms GapicModel.Props.C16.wf_spec
#print axioms GapicModel.Props.C16.wfAddrs_spec
#print axioms GapicModel.Props.C16.succ_of_method
#print axioms GapicModel.Props.C16.allowlist_sound
#print axioms GapicModel.Props.C16.allowlist_closed
#print axioms GapicModel.Props.C16.allowlist_complete
#print axioms GapicModel.Props.C16.allowlist_iff
#print axioms GapicModel.Props.C16.allowlist_least
#print axioms GapicModel.Props.C16.mem_pruneService
#print axioms GapicModel.Props.C16.pruneProto_some
#print axioms GapicModel.Props.C16.pruneProto_none
#print axioms GapicModel.Props.C16.pruned_closed
#print axioms GapicModel.Props.C16.pruned_keeps
#print axioms GapicModel.Props.C16.pruned_minimal
#print axioms GapicModel.Props.C16.pruned_sub
#print axioms GapicModel.Props.C16.self_mem_declared
#print axioms GapicModel.Props.C16.declared_sub
#print axioms GapicModel.Props.C16.emitted_sub_allowlist
#print axioms GapicModel.Props.C16.top_message_emitted_with_children
#print axioms GapicModel.Props.C16.needed_kept
#print axioms GapicModel.Props.C16.kept_method_needed
#print axioms GapicModel.Props.C16.exactly_listed_rpcs
#print axioms GapicModel.Props.C16.listed_service_kept
#print axioms GapicModel.Props.C16.mem_services
#print axioms GapicModel.Props.C16.wfServices_spec
#print axioms GapicModel.Props.C16.extLeafOK_spec
#print axioms GapicModel.Props.C16.needed_service_kept
#print axioms GapicModel.Props.C16.kept_service_nonempty
#print axioms GapicModel.Props.C16.thirdPass_prunes
#print axioms GapicModel.Props.C16.thirdPass_internal
#print axioms GapicModel.Props.C16.dependencies_untouched
#print axioms GapicModel.Props.C16.withInternal_eq
#print axioms GapicModel.Props.C16.internal_mode_omits_nothing
#print axioms GapicModel.Props.C16.isKeyword_eq
#print axioms GapicModel.Props.C16.internal_names
#print axioms GapicModel.Props.C16.client_names
#print axioms GapicModel.Props.C16.base_prefix_iff
#print axioms GapicModel.Props.C16.surfaceNames_stem
#print axioms GapicModel.Props.C16.internal_surface_private
#print axioms GapicModel.Props.C16.public_surface_names
#print axioms GapicModel.Props.C16.surface_count
#print axioms GapicModel.Props.C16.clientName_is_translated
#print axioms GapicModel.Props.C16.makePrivate_is_translated
#print axioms GapicModel.Props.C16.dictSet_ne_nil
#print axioms GapicModel.Props.C16.foldl_eq_nil_iff
#print axioms GapicModel.Props.C16.methodErrors_eq_nil_iff
#print axioms GapicModel.Props.C16.ite_isEmpty_eq_nil
#print axioms GapicModel.Props.C16.validateLoop_eq_nil_iff
#print axioms GapicModel.Props.C16.validateSettings_eq_nil_iff
#print axioms GapicModel.Props.C16.unknown_or_wrong_version_rejected
#print axioms GapicModel.Props.C16.valid_settings_accepted
#print axioms GapicModel.Props.C16.validateSettings_perm
#print axioms GapicModel.Props.C16.library_settings_rejected_perm
#print axioms GapicModel.Props.C16.methodErrors_perm
#print axioms GapicModel.Props.C16.duplicate_version_rejected
#print axioms GapicModel.Props.C16.exApi_wf
#print axioms GapicModel.Props.C16.exApi_allowlist
#print axioms GapicModel.Props.C16.exApi_allowlistExt
#print axioms GapicModel.Props.C16.exApi_pruned
#print axioms GapicModel.Props.C16.orphan_not_emitted_counterexample
#print axioms GapicModel.Props.C16.nested_kept_parent_pruned_counterexample
#print axioms GapicModel.Props.C16.version_prefix_rejected
#print axioms GapicModel.Props.C16.version_must_end_a_segment
