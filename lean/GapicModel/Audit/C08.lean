import GapicModel.Props.C08
#print axioms GapicModel.Props.C08.lookup_eq
#print axioms GapicModel.Props.C08.lookup_of_mem
#print axioms GapicModel.Props.C08.mem_visible
#print axioms GapicModel.Props.C08.resolve_relative
#print axioms GapicModel.Props.C08.resolve_absolute
#print axioms GapicModel.Props.C08.resolve_idempotent
#print axioms GapicModel.Props.C08.resolve_relative_eq_absolute
#print axioms GapicModel.Props.C08.lroInfo_unannotated
#print axioms GapicModel.Props.C08.lroInfo_annotated
#print axioms GapicModel.Props.C08.lroInfo_some_iff
#print axioms GapicModel.Props.C08.lro_visible_without_import
#print axioms GapicModel.Props.C08.visible_reimport
#print axioms GapicModel.Props.C08.lroInfo_imports_irrelevant
#print axioms GapicModel.Props.C08.lro_relative_in_package_partial
#print axioms GapicModel.Props.C08.missing_type_rejected
#print axioms GapicModel.Props.C08.unannotated_is_raw
#print axioms GapicModel.Props.C08.unknown_type_keyerror
#print axioms GapicModel.Props.C08.lro_client_output
#print axioms GapicModel.Props.C08.emitted_future_iff
#print axioms GapicModel.Props.C08.future_types
#print axioms GapicModel.Props.C08.ops_client_same_channel
#print axioms GapicModel.Props.C08.poll_initial_done
#print axioms GapicModel.Props.C08.poll_first_done
#print axioms GapicModel.Props.C08.poll_fix
#print axioms GapicModel.Props.C08.result_typed
#print axioms GapicModel.Props.C08.result_error
#print axioms GapicModel.Props.C08.result_immediate
#print axioms GapicModel.Props.C08.result_only_annotated_type
#print axioms GapicModel.Props.C08.lro_end_to_end
#print axioms GapicModel.Props.C08.isOperation_opOut
#print axioms GapicModel.Props.C08.lroInfo_opOut
#print axioms GapicModel.Props.C08.relative_nested_counterexample
#print axioms GapicModel.Props.C08.leading_dot_counterexample
#print axioms GapicModel.Props.C08.loadService_ok_iff
#print axioms GapicModel.Props.C08.loadService_first_error
#print axioms GapicModel.Props.C08.service_with_incomplete_annotation_rejected
#print axioms GapicModel.Props.C08.hasLro_iff
#print axioms GapicModel.Props.C08.futureCode_callee_bound
#print axioms GapicModel.Props.C08.futureCode_plain
#print axioms GapicModel.Props.C08.futureCode_collision
#print axioms GapicModel.Props.C08.opsHttpTable_only_operations
#print axioms GapicModel.Props.C08.mem_of_lookupSel
#print axioms GapicModel.Props.C08.lookupSel_filter
#print axioms GapicModel.Props.C08.lookupSel_dictSet
#print axioms GapicModel.Props.C08.lookupSel_foldl_dictSet
#print axioms GapicModel.Props.C08.lookupSel_httpOptions
#print axioms GapicModel.Props.C08.lookupSel_opsHttpTable
#print axioms GapicModel.Props.C08.yaml_rule_overrides_default
#print axioms GapicModel.Props.C08.default_rule_without_yaml
#print axioms GapicModel.Props.C08.opsGetPath_eq_lookupSel
#print axioms GapicModel.Props.C08.selector_is_operations
#print axioms GapicModel.Props.C08.opsGetPath_opsHttpTable
#print axioms GapicModel.Props.C08.find_last_rule
#print axioms GapicModel.Props.C08.declared_bindings_in_table
#print axioms GapicModel.Props.C08.matchSegs_dstar
#print axioms GapicModel.Props.C08.default_pattern_accepts
#print axioms GapicModel.Props.C08.transcodeName_isSome_of_row
#print axioms GapicModel.Props.C08.declared_get_binding_is_pollable
#print axioms GapicModel.Props.C08.splitOn_eq
#print axioms GapicModel.Props.C08.clientPackageVersion_last_segment
#print axioms GapicModel.Props.C08.default_poll_url_of_declaring_package
#print axioms GapicModel.Props.C08.yaml_poll_url_package_free
#print axioms GapicModel.Props.C08.lro_relative_in_subpackage
#print axioms GapicModel.Props.C08.exec_append
#print axioms GapicModel.Props.C08.drain_refresh
#print axioms GapicModel.Props.C08.drain_drain
#print axioms GapicModel.Props.C08.drain_step
#print axioms GapicModel.Props.C08.drain_exec
#print axioms GapicModel.Props.C08.observation_transparent
#print axioms GapicModel.Props.C08.polls_never_exceed_history
#print axioms GapicModel.Props.C08.done_future_is_inert
#print axioms GapicModel.Props.C08.cancel_sends_iff_running
#print axioms GapicModel.Props.C08.contains_singleton
#print axioms GapicModel.Props.C08.resolve_is_translated
