import GapicModel.Props.C20
#print axioms GapicModel.Props.C20.nonWs_append
#print axioms GapicModel.Props.C20.nonWs_all_ws
#print axioms GapicModel.Props.C20.ws_space
#print axioms GapicModel.Props.C20.patterns_are_pinned
#print axioms GapicModel.Props.C20.fix_only_removes_whitespace
#print axioms GapicModel.Props.C20.fix_ends_one_newline
#print axioms GapicModel.Props.C20.fix_preserves_code_lines
#print axioms GapicModel.Props.C20.fixWhitespace_demo
#print axioms GapicModel.Props.C20.fix_idempotent
#print axioms GapicModel.Props.C20.fix_is_one_pass_over_runs
#print axioms GapicModel.Props.C20.matcher_exact_on_fix_patterns
#print axioms GapicModel.Props.C20.textwrap_words_preserved
#print axioms GapicModel.Props.C20.textwrap_width_bound
#print axioms GapicModel.Props.C20.wrap_words_preserved
#print axioms GapicModel.Props.C20.wrap_never_raises
#print axioms GapicModel.Props.C20.wrap_tab_regression
#print axioms GapicModel.Props.C20.wrap_leading_ws_regression
#print axioms GapicModel.Props.C20.wrap_blank_regression
#print axioms GapicModel.Props.C20.wrap_width_bound
#print axioms GapicModel.Props.C20.plain_comment_words_reach_docstring
#print axioms GapicModel.Props.C20.doc_words_are_the_comments_words
#print axioms GapicModel.Props.C20.leading_comment_words_reach_docstring
#print axioms GapicModel.Props.C20.wrapColon_regex_is_colonSub
#print axioms GapicModel.Props.C20.textwrap_fill_words_preserved
#print axioms GapicModel.Props.C20.replaceTQ_quote
#print axioms GapicModel.Props.C20.replaceTQ_no_tq
#print axioms GapicModel.Props.C20.rst_output_doc_safe
#print axioms GapicModel.Props.C20.take2_eq_prefix
#print axioms GapicModel.Props.C20.slice02
#print axioms GapicModel.Props.C20.numbered_eq
#print axioms GapicModel.Props.C20.isListItem_is_translated
#print axioms GapicModel.Props.C20.subsequentLevel_is_translated
#print axioms GapicModel.Props.C20.fixWhitespace_is_translated
