import GapicModel.Props.C04
#print axioms GapicModel.Props.C04.splitOn_eq
#print axioms GapicModel.Props.C04.joinWith_eq
#print axioms GapicModel.Props.C04.fixSeg_eq_or
#print axioms GapicModel.Props.C04.mem_fixSeg
#print axioms GapicModel.Props.C04.jsonAux_snoc_underscore
#print axioms GapicModel.Props.C04.json_name_suffix_invariant
#print axioms GapicModel.Props.C04.fixSeg_json
#print axioms GapicModel.Props.C04.lowerSnake_fixSeg
#print axioms GapicModel.Props.C04.lowerSnake_noCap
#print axioms GapicModel.Props.C04.camel_eq_json
#print axioms GapicModel.Props.C04.unfixSeg_fixSeg
#print axioms GapicModel.Props.C04.unfixFieldPath_fixFieldPath
#print axioms GapicModel.Props.C04.uri_rewrite_invertible
#print axioms GapicModel.Props.C04.lazyGo_spec
#print axioms GapicModel.Props.C04.lazyTmpl_spec
#print axioms GapicModel.Props.C04.scanName_spec
#print axioms GapicModel.Props.C04.render_flush
#print axioms GapicModel.Props.C04.render_append
#print axioms GapicModel.Props.C04.render_scanF
#print axioms GapicModel.Props.C04.render_scan
#print axioms GapicModel.Props.C04.convertUri_invertible
#print axioms GapicModel.Props.C04.selects_of_tryBinding
#print axioms GapicModel.Props.C04.transcode_spec_refines
#print axioms GapicModel.Props.C04.reroot_subtree
#print axioms GapicModel.Props.C04.selects_partition
#print axioms GapicModel.Props.C04.restCall_ok
#print axioms GapicModel.Props.C04.partition
#print axioms GapicModel.Props.C04.body_carried
#print axioms GapicModel.Props.C04.parseHttpRule_eq_none
#print axioms GapicModel.Props.C04.parseHttpRule_eq_some
#print axioms GapicModel.Props.C04.binding_selected_is_declared
#print axioms GapicModel.Props.C04.addedDefaults_eq
#print axioms GapicModel.Props.C04.mem_defaulted
#print axioms GapicModel.Props.C04.required_default_keyed
#print axioms GapicModel.Props.C04.required_default_present
#print axioms GapicModel.Props.C04.queryParams_withPresence
#print axioms GapicModel.Props.C04.requiredDefaults_presence_irrelevant
#print axioms GapicModel.Props.C04.addedDefaults_presence_irrelevant
#print axioms GapicModel.Props.C04.required_default_present_with_presence
#print axioms GapicModel.Props.C04.no_duplication
#print axioms GapicModel.Props.C04.unbound_required_in_table
#print axioms GapicModel.Props.C04.mem_queryParams
#print axioms GapicModel.Props.C04.agree_primary
#print axioms GapicModel.Props.C04.added_iff_unbound_unset
#print axioms GapicModel.Props.C04.transcode_first_match
#print axioms GapicModel.Props.C04.reply_parsed_iff
#print axioms GapicModel.Props.C04.numeric_enum_switch
#print axioms GapicModel.Props.C04.refuses_iff
#print axioms GapicModel.Props.C04.no_binding_refuses
#print axioms GapicModel.Props.C04.no_binding_iff
#print axioms GapicModel.Props.C04.required_presence_defaults_regression
#print axioms GapicModel.Props.C04.required_presence_set_regression
#print axioms GapicModel.Props.C04.required_defaults_skipping_oneof_counterexample
#print axioms GapicModel.Props.C04.additional_binding_counterexample
#print axioms GapicModel.Props.C04.reserved_path_field_regression
#print axioms GapicModel.Props.C04.bytes_default_counterexample
#print axioms GapicModel.Props.C04.repeated_default_counterexample
#print axioms GapicModel.Props.C04.body_keyerror_counterexample
#print axioms GapicModel.Props.C04.body_lost_counterexample
#print axioms GapicModel.Props.C04.fixBody_eq_fixSeg
#print axioms GapicModel.Props.C04.body_rename_regression
#print axioms GapicModel.Props.C04.fixSeg_is_translated
#print axioms GapicModel.Props.C04.fixFieldPath_is_translated
#print axioms GapicModel.Props.C04.lowerC_eq_toLower
#print axioms GapicModel.Props.C04.upperC_eq_toUpper
#print axioms GapicModel.Props.C04.lower_eq
#print axioms GapicModel.Props.C04.capitalize_eq
#print axioms GapicModel.Props.C04.reSplitAux_underscore
#print axioms GapicModel.Props.C04.reSplit_underscore
#print axioms GapicModel.Props.C04.camelKey_is_translated
#print axioms GapicModel.Props.C04.camelKey_is_translated_on_generated_names
#print axioms GapicModel.Props.C04.camelKey_is_translated_on_reserved_words
