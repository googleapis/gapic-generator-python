import GapicModel.Props.C17
#print axioms GapicModel.Props.C17.dictGet_dictSet
#print axioms GapicModel.Props.C17.dictGet_isSome_iff
#print axioms GapicModel.Props.C17.keys_dictSet
#print axioms GapicModel.Props.C17.keys_dictMerge
#print axioms GapicModel.Props.C17.dictGet_map
#print axioms GapicModel.Props.C17.mem_of_dictGet
#print axioms GapicModel.Props.C17.find?_fst
#print axioms GapicModel.Props.C17.mem_dictSet
#print axioms GapicModel.Props.C17.all_dictSet
#print axioms GapicModel.Props.C17.all_dictMerge
#print axioms GapicModel.Props.C17.mem_allApis
#print axioms GapicModel.Props.C17.hasMixin_iff
#print axioms GapicModel.Props.C17.selMethod_iff
#print axioms GapicModel.Props.C17.methodsFrom_eq
#print axioms GapicModel.Props.C17.all_methodsFrom
#print axioms GapicModel.Props.C17.methodsFrom_last_rule
#print axioms GapicModel.Props.C17.methodsFrom_keys_iff
#print axioms GapicModel.Props.C17.iam_overrides_iff
#print axioms GapicModel.Props.C17.included_iff
#print axioms GapicModel.Props.C17.mixin_exposed_iff
#print axioms GapicModel.Props.C17.mixin_rule_from_yaml
#print axioms GapicModel.Props.C17.none_when_unlisted
#print axioms GapicModel.Props.C17.api_row
#print axioms GapicModel.Props.C17.methods_disjoint
#print axioms GapicModel.Props.C17.none_of_unlisted_api
#print axioms GapicModel.Props.C17.iam_yields_to_same_named
#print axioms GapicModel.Props.C17.iam_override_drops_other_counterexample
#print axioms GapicModel.Props.C17.mixin_exposed_iff_no_override
#print axioms GapicModel.Props.C17.mem_view_iff
#print axioms GapicModel.Props.C17.view_root
#print axioms GapicModel.Props.C17.client_iam_overrides_iff
#print axioms GapicModel.Props.C17.client_mixin_exposed_iff
#print axioms GapicModel.Props.C17.iam_yields_within_view
#print axioms GapicModel.Props.C17.iam_yields_api_package_client
#print axioms GapicModel.Props.C17.iam_yield_stops_at_view_counterexample
#print axioms GapicModel.Props.C17.generated_ignores_internal
#print axioms GapicModel.Props.C17.api_generated_ignores_internal
#print axioms GapicModel.Props.C17.iam_overrides_ignores_internal
#print axioms GapicModel.Props.C17.iam_yields_to_internal_rpc
#print axioms GapicModel.Props.C17.own_rpc_fates_example
#print axioms GapicModel.Props.C17.http_options_from_rule
#print axioms GapicModel.Props.C17.tryParse_verb_uri_body
#print axioms GapicModel.Props.C17.convertUri_ofList
#print axioms GapicModel.Props.C17.convertUri_id_examples
#print axioms GapicModel.Props.C17.sync_async_alike
#print axioms GapicModel.Props.C17.mem_tmplLocations
#print axioms GapicModel.Props.C17.exposed_iff_selected
#print axioms GapicModel.Props.C17.respL_inj
#print axioms GapicModel.Props.C17.dictGet_of_lookup
#print axioms GapicModel.Props.C17.tables_agree_chars
#print axioms GapicModel.Props.C17.tables_agree
#print axioms GapicModel.Props.C17.canonical_paths
#print axioms GapicModel.Props.C17.mixins_map_covers_exactly
#print axioms GapicModel.Props.C17.grpc_response_canonical
#print axioms GapicModel.Props.C17.wait_operation_grpc_response_regression
#print axioms GapicModel.Props.C17.grpc_call_sent_iff
#print axioms GapicModel.Props.C17.grpc_paths_injective
#print axioms GapicModel.Props.C17.signatures_from_map
#print axioms GapicModel.Props.C17.signatures_canonical
#print axioms GapicModel.Props.C17.transports_follow_selection
#print axioms GapicModel.Props.C17.legacy_iam_three_methods_both_clients
#print axioms GapicModel.Props.C17.legacy_iam_defined_once
#print axioms GapicModel.Props.C17.legacy_call_both_clients
#print axioms GapicModel.Props.C17.legacy_async_regression
#print axioms GapicModel.Props.C17.grpc_call_sync_async_alike
#print axioms GapicModel.Props.C17.refExt_spec
#print axioms GapicModel.Props.C17.restCall_sent
#print axioms GapicModel.Props.C17.rest_uses_rule_verb_path_body
#print axioms GapicModel.Props.C17.rest_body_of_uniform_bindings
#print axioms GapicModel.Props.C17.rest_body_sent_iff_first_binding_has_body
#print axioms GapicModel.Props.C17.rest_mixed_bindings_drop_body_counterexample
#print axioms GapicModel.Props.C17.rest_mixed_bindings_keyerror_counterexample
#print axioms GapicModel.Props.C17.exSelected
