import GapicModel.Props.C02
#print axioms GapicModel.Props.C02.attr_name_rule
#print axioms GapicModel.Props.C02.reserved_eq
#print axioms GapicModel.Props.C02.keywords_eq
#print axioms GapicModel.Props.C02.reserved_suffix_fresh
#print axioms GapicModel.Props.C02.keywords_subset_reserved
#print axioms GapicModel.Props.C02.attr_not_reserved
#print axioms GapicModel.Props.C02.attr_not_keyword
#print axioms GapicModel.Props.C02.attr_one_underscore
#print axioms GapicModel.Props.C02.jsonGo_append_underscore
#print axioms GapicModel.Props.C02.json_name_suffix_invariant
#print axioms GapicModel.Props.C02.json_name_attr
#print axioms GapicModel.Props.C02.attr_injective_per_message
#print axioms GapicModel.Props.C02.append_underscore_ne
#print axioms GapicModel.Props.C02.getLast?_append_one
#print axioms GapicModel.Props.C02.dropLast_append_one
#print axioms GapicModel.Props.C02.wire_name_recovered
#print axioms GapicModel.Props.C02.filter_length_lt
#print axioms GapicModel.Props.C02.disambiguate_fresh
#print axioms GapicModel.Props.C02.proto_alias_fresh
#print axioms GapicModel.Props.C02.proto_type_table
#print axioms GapicModel.Props.C02.kw_roundtrip
#print axioms GapicModel.Props.C02.decl_roundtrip
#print axioms GapicModel.Props.C02.emitDecl_shape
#print axioms GapicModel.Props.C02.number_unchanged
#print axioms GapicModel.Props.C02.oneof_membership
#print axioms GapicModel.Props.C02.oneof_name_lookup
#print axioms GapicModel.Props.C02.oneof_name_none
#print axioms GapicModel.Props.C02.oneof_membership_preserved
#print axioms GapicModel.Props.C02.resolution_order_irrelevant
#print axioms GapicModel.Props.C02.joinDots_prefix
#print axioms GapicModel.Props.C02.proto_plus_packages
#print axioms GapicModel.Props.C02.proto_plus_prefix_quirk
#print axioms GapicModel.Props.C02.python_import_target_layout
#print axioms GapicModel.Props.C02.insertByNumber_eq
#print axioms GapicModel.Props.C02.sortByNumber_perm
#print axioms GapicModel.Props.C02.sortByNumber_sorted
#print axioms GapicModel.Props.C02.sortByNumber_of_sorted
#print axioms GapicModel.Props.C02.enum_values_preserved
#print axioms GapicModel.Props.C02.enum_sorted_identity
#print axioms GapicModel.Props.C02.enum_negative_counterexample
#print axioms GapicModel.Props.C02.manifest_exact
#print axioms GapicModel.Props.C02.module_header_package
#print axioms GapicModel.Props.C02.module_marshal_shared
#print axioms GapicModel.Props.C02.module_marshal_printed_iff
#print axioms GapicModel.Props.C02.module_types_full_name
#print axioms GapicModel.Props.C02.bindName_eq
#print axioms GapicModel.Props.C02.lookupMember_eq
#print axioms GapicModel.Props.C02.classDict_eq
#print axioms GapicModel.Props.C02.lookup_ofPairs_last
#print axioms GapicModel.Props.C02.fieldBindings_keys
#print axioms GapicModel.Props.C02.fieldBindings_append
#print axioms GapicModel.Props.C02.field_kept
#print axioms GapicModel.Props.C02.raw_page_field_kept
#print axioms GapicModel.Props.C02.done_field_kept_general
#print axioms GapicModel.Props.C02.kept_field_seen
#print axioms GapicModel.Props.C02.done_field_kept
#print axioms GapicModel.Props.C02.descend_of_prefixClosed
#print axioms GapicModel.Props.C02.pyEval_nested
#print axioms GapicModel.Props.C02.rel_same_module
#print axioms GapicModel.Props.C02.rel_resolves
#print axioms GapicModel.Props.C02.rel_cross_module_resolves
#print axioms GapicModel.Props.C02.resolves_of_rel
#print axioms GapicModel.Props.C02.decl_roundtrip_python
#print axioms GapicModel.Props.C02.rel_shadowed_regression
#print axioms GapicModel.Props.C02.rel_shadowed_nested_regression
#print axioms GapicModel.Props.C02.rel_bare_only_from_top_level
#print axioms GapicModel.Props.C02.translated_rel_quotes_same_file_references
#print axioms GapicModel.Props.C02.translated_rel_never_raises
#print axioms GapicModel.Props.C02.fieldAttr_is_translated
