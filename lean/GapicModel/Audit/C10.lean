import GapicModel.Props.C10
#print axioms GapicModel.Props.C10.leStr_iff_le
#print axioms GapicModel.Props.C10.leStr_total
#print axioms GapicModel.Props.C10.leStr_trans
#print axioms GapicModel.Props.C10.leStr_antisymm
#print axioms GapicModel.Props.C10.mergeSort_sorts
#print axioms GapicModel.Props.C10.Sorts.unique
#print axioms GapicModel.Props.C10.sortBy_sorts
#print axioms GapicModel.Props.C10.leKey_of_key_eq
#print axioms GapicModel.Props.C10.sortedStr_eq_sortBy
#print axioms GapicModel.Props.C10.dedup_isSetOf
#print axioms GapicModel.Props.C10.isSetOf_perm
#print axioms GapicModel.Props.C10.isSetOf_of_perm
#print axioms GapicModel.Props.C10.splitOn_eq
#print axioms GapicModel.Props.C10.joinWith_eq
#print axioms GapicModel.Props.C10.joinNl_eq
#print axioms GapicModel.Props.C10.sort_by_key_perm_invariant
#print axioms GapicModel.Props.C10.sort_by_key_needs_injective
#print axioms GapicModel.Props.C10.not_sublist_swap
#print axioms GapicModel.Props.C10.sort_by_key_perm_invariant_iff
#print axioms GapicModel.Props.C10.sorted_perm_invariant
#print axioms GapicModel.Props.C10.sorted_set_eq
#print axioms GapicModel.Props.C10.sort_lines_perm_invariant
#print axioms GapicModel.Props.C10.sort_lines_is_some_set_order
#print axioms GapicModel.Props.C10.sort_lines_nodedupe_perm_invariant
#print axioms GapicModel.Props.C10.sort_total_order_perm_invariant
#print axioms GapicModel.Props.C10.subpackages_order_free
#print axioms GapicModel.Props.C10.sub_walk_order_free
#print axioms GapicModel.Props.C10.subpackage_names_perm_invariant
#print axioms GapicModel.Props.C10.subpackage_names_own_level
#print axioms GapicModel.Props.C10.subpackage_names_level_regression
#print axioms GapicModel.Props.C10.oauth_scopes_keep_declaration_order
#print axioms GapicModel.Props.C10.s3_mem_perm_invariant
#print axioms GapicModel.Props.C10.s3_length_perm_invariant
#print axioms GapicModel.Props.C10.s3_any_perm_invariant
#print axioms GapicModel.Props.C10.s3_all_perm_invariant
#print axioms GapicModel.Props.C10.disambiguate_perm_invariant
#print axioms GapicModel.Props.C10.module_collides_perm_invariant
#print axioms GapicModel.Props.C10.query_params_order_free
#print axioms GapicModel.Props.C10.s4_chain
#print axioms GapicModel.Props.C10.import_block_order_free
#print axioms GapicModel.Props.C10.import_block_perm_invariant
#print axioms GapicModel.Props.C10.colliding_module_perm_invariant
#print axioms GapicModel.Props.C10.pipeline_order_free
#print axioms GapicModel.Props.C10.pipeline_order_leak
#print axioms GapicModel.Props.C10.exception_keys_injective
#print axioms GapicModel.Props.C10.retry_order_free
#print axioms GapicModel.Props.C10.resource_helpers_order_free
#print axioms GapicModel.Props.C10.things_types_distinct
#print axioms GapicModel.Props.C10.resource_helpers_f4_regression
#print axioms GapicModel.Props.C10.single_stage_sort_order_dependent
#print axioms GapicModel.Props.C10.resource_helpers_two_stage_conservative
#print axioms GapicModel.Props.C10.resource_helpers_needs_distinct_types
#print axioms GapicModel.Props.C10.dict_key_order
#print axioms GapicModel.Props.C10.dict_update_key_order
#print axioms GapicModel.Props.C10.dict_last_writer_wins
#print axioms GapicModel.Props.C10.dict_key_order_ignores_values
#print axioms GapicModel.Props.C10.methods_from_service_yaml_order
#print axioms GapicModel.Props.C10.methods_from_service_last_rule_wins
#print axioms GapicModel.Props.C10.methods_from_service_table_order_free
#print axioms GapicModel.Props.C10.mixin_api_methods_yaml_order
#print axioms GapicModel.Props.C10.mixin_api_methods_keys_nodup
#print axioms GapicModel.Props.C10.mixin_api_methods_order_function_of_yaml_order
#print axioms GapicModel.Props.C10.mixin_signatures_same_order
#print axioms GapicModel.Props.C10.mixin_http_options_same_order
#print axioms GapicModel.Props.C10.mixin_dicts_share_key_order
#print axioms GapicModel.Props.C10.http_options_yaml_order
#print axioms GapicModel.Props.C10.http_options_last_rule_wins
#print axioms GapicModel.Props.C10.all_method_settings_is_yaml_list
#print axioms GapicModel.Props.C10.all_method_settings_raises_iff
#print axioms GapicModel.Props.C10.response_files_eq
#print axioms GapicModel.Props.C10.response_file_order
#print axioms GapicModel.Props.C10.chain_map_key_order
#print axioms GapicModel.Props.C10.dictsort_insertion_order_free
#print axioms GapicModel.Props.C10.mixin_methods_via_set_counterexample
#print axioms GapicModel.Props.C10.strip_eq
#print axioms GapicModel.Props.C10.ltStr_eq
#print axioms GapicModel.Props.C10.insertStr_eq
#print axioms GapicModel.Props.C10.sortStr_sorts
#print axioms GapicModel.Props.C10.sortStr_eq
#print axioms GapicModel.Props.C10.nodup_eraseDups
#print axioms GapicModel.Props.C10.eraseDups_isSetOf
#print axioms GapicModel.Props.C10.startswith_eq
#print axioms GapicModel.Props.C10.endswith_eq
#print axioms GapicModel.Props.C10.sort_lines_translated
