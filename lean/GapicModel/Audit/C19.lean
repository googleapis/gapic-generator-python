import GapicModel.Props.C19
#print axioms GapicModel.Props.C19.Good.arity
#print axioms GapicModel.Props.C19.rest_fail
#print axioms GapicModel.Props.C19.match_build
#print axioms GapicModel.Props.C19.expected_eq_zip
#print axioms GapicModel.Props.C19.group_capsP_lt
#print axioms GapicModel.Props.C19.groupdict_capsP
#print axioms GapicModel.Props.C19.wildcard_accepts_all
#print axioms GapicModel.Props.C19.parse_build_partial
#print axioms GapicModel.Props.C19.rebuild_partial
#print axioms GapicModel.Props.C19.nonmatch_empty
#print axioms GapicModel.Props.C19.args_are_variables
#print axioms GapicModel.Props.C19.noDelim_good
#print axioms GapicModel.Props.C19.roundtrip_noDelim
#print axioms GapicModel.Props.C19.roundtrip_in_quantifier
#print axioms GapicModel.Props.C19.buildKw_of_lookup
#print axioms GapicModel.Props.C19.rebuild_by_name
#print axioms GapicModel.Props.C19.common_segs_are_the_table
#print axioms GapicModel.Props.C19.common_resources_roundtrip
#print axioms GapicModel.Props.C19.dot_separator_roundtrip
#print axioms GapicModel.Props.C19.multi_segment_tail_roundtrip
#print axioms GapicModel.Props.C19.suffix_inside_last_value_roundtrip
#print axioms GapicModel.Props.C19.camel_case_variables_roundtrip
#print axioms GapicModel.Props.C19.other_separator_in_value_roundtrip
#print axioms GapicModel.Props.C19.newline_counterexample
#print axioms GapicModel.Props.C19.empty_segment_counterexample
#print axioms GapicModel.Props.C19.delimiter_in_value_counterexample
#print axioms GapicModel.Props.C19.adjacent_variables_counterexample
#print axioms GapicModel.Props.C19.mem_msgResources
#print axioms GapicModel.Props.C19.mem_resourcesOf
#print axioms GapicModel.Props.C19.service_resources_exactly_visible
#print axioms GapicModel.Props.C19.lro_response_resource_visible
#print axioms GapicModel.Props.C19.referenced_definition_visible
#print axioms GapicModel.Props.C19.lookup_is_defined
#print axioms GapicModel.Props.C19.offeredAll_of_unique
#print axioms GapicModel.Props.C19.helper_for_every_visible_resource
#print axioms GapicModel.Props.C19.demo_service_resources
#print axioms GapicModel.Props.C19.helper_name_collision_counterexample
#print axioms GapicModel.Props.C19.common_prefix_collision_counterexample
#print axioms GapicModel.Props.C19.nested_resource_reference_regression
#print axioms GapicModel.Props.C19.common_typed_declared_resource_regression
