import GapicModel.Props.C05
#print axioms GapicModel.Props.C05.filter_or_perm
#print axioms GapicModel.Props.C05.incomp_cons
#print axioms GapicModel.Props.C05.incomp_symm
#print axioms GapicModel.Props.C05.incomp_iff_not_prefix
#print axioms GapicModel.Props.C05.good_slot
#print axioms GapicModel.Props.C05.good_arg
#print axioms GapicModel.Props.C05.yielded_in_order
#print axioms GapicModel.Props.C05.yielded_mem
#print axioms GapicModel.Props.C05.odInsert_keys
#print axioms GapicModel.Props.C05.odInsert_fresh
#print axioms GapicModel.Props.C05.odInsert_mem
#print axioms GapicModel.Props.C05.foldl_odInsert_keys
#print axioms GapicModel.Props.C05.foldl_odInsert_mem
#print axioms GapicModel.Props.C05.params_in_declared_order
#print axioms GapicModel.Props.C05.firstSeen_nodup
#print axioms GapicModel.Props.C05.params_exactly_declared
#print axioms GapicModel.Props.C05.lookup_ins
#print axioms GapicModel.Props.C05.lookup_erase
#print axioms GapicModel.Props.C05.lookup_put
#print axioms GapicModel.Props.C05.erase_of_lookup_none
#print axioms GapicModel.Props.C05.ins_ins_same
#print axioms GapicModel.Props.C05.ins_ins_comm
#print axioms GapicModel.Props.C05.atPath_congr
#print axioms GapicModel.Props.C05.lookupAt_atPath
#print axioms GapicModel.Props.C05.slot_modifyAt
#print axioms GapicModel.Props.C05.lookupAt_none
#print axioms GapicModel.Props.C05.slot_mnil
#print axioms GapicModel.Props.C05.atPath_const
#print axioms GapicModel.Props.C05.modifyAt_const
#print axioms GapicModel.Props.C05.setAt_comm
#print axioms GapicModel.Props.C05.stmt_eff
#print axioms GapicModel.Props.C05.extend_eff
#print axioms GapicModel.Props.C05.update_eff
#print axioms GapicModel.Props.C05.truthy_eff
#print axioms GapicModel.Props.C05.effStep_slot
#print axioms GapicModel.Props.C05.unset_foldl_eff
#print axioms GapicModel.Props.C05.effStep_comm
#print axioms GapicModel.Props.C05.foldl_eff_perm
#print axioms GapicModel.Props.C05.isPass_of_body
#print axioms GapicModel.Props.C05.pass_idle
#print axioms GapicModel.Props.C05.pass_eq
#print axioms GapicModel.Props.C05.pass_after
#print axioms GapicModel.Props.C05.pass_last
#print axioms GapicModel.Props.C05.refStep_isPass
#print axioms GapicModel.Props.C05.syncLoop1_isPass
#print axioms GapicModel.Props.C05.syncLoop2_isPass
#print axioms GapicModel.Props.C05.asyncLoop1_isPass
#print axioms GapicModel.Props.C05.asyncLoop2_isPass
#print axioms GapicModel.Props.C05.asyncLoop3_isPass
#print axioms GapicModel.Props.C05.unset_filter
#print axioms GapicModel.Props.C05.setAll_eq_eff
#print axioms GapicModel.Props.C05.sync_passes_partition
#print axioms GapicModel.Props.C05.apply_sync_eq_set
#print axioms GapicModel.Props.C05.apply_sync_eq_set_unconditional
#print axioms GapicModel.Props.C05.apply_async_eq_set
#print axioms GapicModel.Props.C05.ctorStep_eq
#print axioms GapicModel.Props.C05.retarget_of_ctorOk
#print axioms GapicModel.Props.C05.apply_async_cross_char
#print axioms GapicModel.Props.C05.apply_async_cross_eq_set
#print axioms GapicModel.Props.C05.noargs_iff
#print axioms GapicModel.Props.C05.noargs_map
#print axioms GapicModel.Props.C05.applySync_noargs
#print axioms GapicModel.Props.C05.applyAsyncSame_noargs
#print axioms GapicModel.Props.C05.call_mixed
#print axioms GapicModel.Props.C05.call_attr
#print axioms GapicModel.Props.C05.call_request_only
#print axioms GapicModel.Props.C05.call_kwargs_only
#print axioms GapicModel.Props.C05.applyAsyncCross_error
#print axioms GapicModel.Props.C05.call_error
#print axioms GapicModel.Props.C05.mixed_call_rejected
#print axioms GapicModel.Props.C05.rejected_before_send
#print axioms GapicModel.Props.C05.value_error_iff_mixed
#print axioms GapicModel.Props.C05.attribute_error_iff
#print axioms GapicModel.Props.C05.kwargs_equiv_request
#print axioms GapicModel.Props.C05.kwargs_equiv_request_cross
#print axioms GapicModel.Props.C05.sync_async_same
#print axioms GapicModel.Props.C05.sync_async_agree
#print axioms GapicModel.Props.C05.async_raw_ok_of_sync
#print axioms GapicModel.Props.C05.segKey_not_keyword
#print axioms GapicModel.Props.C05.keySegs_not_keyword
#print axioms GapicModel.Props.C05.resolve_of_getField
#print axioms GapicModel.Props.C05.key_attr_resolves
#print axioms GapicModel.Props.C05.emit_never_keyword_attr
#print axioms GapicModel.Props.C05.keyword_segment_regression
#print axioms GapicModel.Props.C05.duplicate_param_counterexample
#print axioms GapicModel.Props.C05.cross_reserved_counterexample
#print axioms GapicModel.Props.C05.async_cross_dotted_counterexample
#print axioms GapicModel.Props.C05.overlap_counterexample
#print axioms GapicModel.Props.C05.falsy_dotted_counterexample
#print axioms GapicModel.Props.C05.raw_owner_repeated_regression
#print axioms GapicModel.Props.C05.raw_owner_message_counterexample
#print axioms GapicModel.Props.C05.cross_two_repeated_regression
#print axioms GapicModel.Props.C05.append_sub_ne
#print axioms GapicModel.Props.C05.samePkg_iff
#print axioms GapicModel.Props.C05.crossPkg_iff
#print axioms GapicModel.Props.C05.isProtoPlusType_iff
#print axioms GapicModel.Props.C05.api_package_is_proto_plus
#print axioms GapicModel.Props.C05.sub_package_is_proto_plus
#print axioms GapicModel.Props.C05.proto_plus_dep_is_proto_plus
#print axioms GapicModel.Props.C05.proto_plus_string_prefix_counterexample
#print axioms GapicModel.Props.C05.same_package_not_cross
#print axioms GapicModel.Props.C05.sub_package_request_is_cross
#print axioms GapicModel.Props.C05.parent_package_request_is_cross
#print axioms GapicModel.Props.C05.callOf_sub_package
#print axioms GapicModel.Props.C05.kwargs_equiv_request_any_layout
#print axioms GapicModel.Props.C05.sync_async_agree_any_layout
#print axioms GapicModel.Props.C05.mixed_call_rejected_any_layout
#print axioms GapicModel.Props.C05.cross_repeated_second_pass_only
#print axioms GapicModel.Props.C05.async_cross_misroute_counterexample
#print axioms GapicModel.Props.C05.marshalled_owner_counterexample
#print axioms GapicModel.Props.C05.marshal_owner_needs_dotted
#print axioms GapicModel.Props.C05.marshal_owner_needs_proto_plus_parent
#print axioms GapicModel.Props.C05.cross_package_offers_only_primitive
#print axioms GapicModel.Props.C05.sub_package_request_offers_only_primitive
#print axioms GapicModel.Props.C05.getField_links_from
#print axioms GapicModel.Props.C05.derived_owner_flags
#print axioms GapicModel.Props.C05.api_message_owner_not_raw
