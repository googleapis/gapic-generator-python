import GapicModel.Props.C15
#print axioms GapicModel.Props.C15.perm_flatMap_left
#print axioms GapicModel.Props.C15.memStr_eq
#print axioms GapicModel.Props.C15.isKeywordName_eq
#print axioms GapicModel.Props.C15.pyFieldName_eq
#print axioms GapicModel.Props.C15.toSnakeCase_eq
#print axioms GapicModel.Props.C15.insertBy_perm
#print axioms GapicModel.Props.C15.sortBy_perm
#print axioms GapicModel.Props.C15.upsert_fresh
#print axioms GapicModel.Props.C15.foldl_upsert_fresh
#print axioms GapicModel.Props.C15.uniqueBy_sublist
#print axioms GapicModel.Props.C15.uniqueBy_covers
#print axioms GapicModel.Props.C15.uniqueBy_id_of_nodup
#print axioms GapicModel.Props.C15.partitionGo_eq
#print axioms GapicModel.Props.C15.partition_eq_filter
#print axioms GapicModel.Props.C15.clientKinds_keys_nodup
#print axioms GapicModel.Props.C15.mem_clientKinds
#print axioms GapicModel.Props.C15.mem_emittedClasses
#print axioms GapicModel.Props.C15.rpcs_simple
#print axioms GapicModel.Props.C15.clients_simple
#print axioms GapicModel.Props.C15.metadata_services_simple
#print axioms GapicModel.Props.C15.metadata_services_perm
#print axioms GapicModel.Props.C15.metadata_complete_once
#print axioms GapicModel.Props.C15.expected_keys_nodup
#print axioms GapicModel.Props.C15.metadata_keys_nodup
#print axioms GapicModel.Props.C15.client_kinds_exact
#print axioms GapicModel.Props.C15.metadata_kinds_exact
#print axioms GapicModel.Props.C15.metadata_clients_complete_once
#print axioms GapicModel.Props.C15.emitted_classes_listed
#print axioms GapicModel.Props.C15.packages_recorded
#print axioms GapicModel.Props.C15.library_package_no_namespace
#print axioms GapicModel.Props.C15.services_congr
#print axioms GapicModel.Props.C15.metadata_names_exist
#print axioms GapicModel.Props.C15.legacyNames_eq
#print axioms GapicModel.Props.C15.legacy_order
#print axioms GapicModel.Props.C15.legacy_perm
#print axioms GapicModel.Props.C15.legacy_required_first_presence_irrelevant
#print axioms GapicModel.Props.C15.legacy_lists_every_field
#print axioms GapicModel.Props.C15.legacy_cross_package_request
#print axioms GapicModel.Props.C15.legacy_depends_on_fields_only
#print axioms GapicModel.Props.C15.legacy_local_vs_cross_package
#print axioms GapicModel.Props.C15.legacy_order_number_independent
#print axioms GapicModel.Props.C15.legacy_order_ignores_numbers_example
#print axioms GapicModel.Props.C15.fixupMethods_sub
#print axioms GapicModel.Props.C15.fixupMethods_covers
#print axioms GapicModel.Props.C15.fixup_has_every_rpc_name
#print axioms GapicModel.Props.C15.fixup_lists_request_fields
#print axioms GapicModel.Props.C15.fixup_only_rpcs
#print axioms GapicModel.Props.C15.fixup_keeps_case_variants
#print axioms GapicModel.Props.C15.fixup_shared_name_counterexample
#print axioms GapicModel.Props.C15.names_exist_extended_operation_async_counterexample
#print axioms GapicModel.Props.C15.class_name_clash_counterexample
#print axioms GapicModel.Props.C15.duplicate_service_names_merge_counterexample
#print axioms GapicModel.Props.C15.zipPairs_take
#print axioms GapicModel.Props.C15.zipPairs_swap_map
#print axioms GapicModel.Props.C15.dictGet_append
#print axioms GapicModel.Props.C15.fixCall_unknown
#print axioms GapicModel.Props.C15.fixCall_already_fixed
#print axioms GapicModel.Props.C15.fixCall_positional
#print axioms GapicModel.Props.C15.fixCall_keyword_renamed_counterexample
#print axioms GapicModel.Props.C15.fixupTableOpt_off
#print axioms GapicModel.Props.C15.fixupTableOpt_iam
#print axioms GapicModel.Props.C15.toSnakeCase_is_translated
#print axioms GapicModel.Props.C15.makePrivate_is_translated
