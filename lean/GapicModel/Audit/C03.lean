import GapicModel.Props.C03
#print axioms GapicModel.Props.C03.rpc_path_uses_wire_names
#print axioms GapicModel.Props.C03.rpc_path_ignores_api_root
#print axioms GapicModel.Props.C03.rpc_path_sub_package_counterexample
#print axioms GapicModel.Props.C03.rpcPath_eq
#print axioms GapicModel.Props.C03.rpc_path_qualified_injective
#print axioms GapicModel.Props.C03.rpc_path_injective
#print axioms GapicModel.Props.C03.rpc_path_service_injective
#print axioms GapicModel.Props.C03.rpc_path_suffix
#print axioms GapicModel.Props.C03.stub_kind_exact
#print axioms GapicModel.Props.C03.stub_kind_values
#print axioms GapicModel.Props.C03.lastDef_eq_none
#print axioms GapicModel.Props.C03.lastDef_append
#print axioms GapicModel.Props.C03.lastDef_map_eq_none
#print axioms GapicModel.Props.C03.lastDef_map_nodup
#print axioms GapicModel.Props.C03.stub_names_agree
#print axioms GapicModel.Props.C03.wrapped_lookup_total
#print axioms GapicModel.Props.C03.stub_keys_injective
#print axioms GapicModel.Props.C03.stub_lookup_own
#print axioms GapicModel.Props.C03.client_lookup_own
#print axioms GapicModel.Props.C03.endsWithPb2_append
#print axioms GapicModel.Props.C03.serializer_consistent
#print axioms GapicModel.Props.C03.serializer_pb2_iff_not_proto_plus
#print axioms GapicModel.Props.C03.serializer_pb2_named_module_counterexample
#print axioms GapicModel.Props.C03.prepAll_ok
#print axioms GapicModel.Props.C03.construct_ok
#print axioms GapicModel.Props.C03.coerce_equiv
#print axioms GapicModel.Props.C03.coerce_falsy_instance_regression
#print axioms GapicModel.Props.C03.return_shape
#print axioms GapicModel.Props.C03.issued_iff
#print axioms GapicModel.Props.C03.issued_of_not
#print axioms GapicModel.Props.C03.call_reaches_rpc
#print axioms GapicModel.Props.C03.sync_async_agree
#print axioms GapicModel.Props.C03.lookup_getStub
#print axioms GapicModel.Props.C03.callChannel_eq
#print axioms GapicModel.Props.C03.lookup_getStub_self
#print axioms GapicModel.Props.C03.lookup_prepCache
#print axioms GapicModel.Props.C03.calls_go_to_own_channel
#print axioms GapicModel.Props.C03.shared_stub_cache_counterexample
#print axioms GapicModel.Props.C03.inherited_binding_wins
#print axioms GapicModel.Props.C03.unsafe_names_suffixed
#print axioms GapicModel.Props.C03.stubKey_ne_close_kind
#print axioms GapicModel.Props.C03.later_members_never_hit
#print axioms GapicModel.Props.C03.transportSafeName_of_kw
#print axioms GapicModel.Props.C03.keyword_names_suffixed
#print axioms GapicModel.Props.C03.close_rpc_regression
#print axioms GapicModel.Props.C03.kind_rpc_regression
#print axioms GapicModel.Props.C03.shadowed_stub_counterexample
#print axioms GapicModel.Props.C03.mixin_shadows_own_rpc_counterexample
#print axioms GapicModel.Props.C03.snake_collision_counterexample
#print axioms GapicModel.Props.C03.void_server_streaming_async_counterexample
#print axioms GapicModel.Props.C03.void_client_streaming_async_counterexample
#print axioms GapicModel.Props.C03.pb2_named_module_counterexample
#print axioms GapicModel.Props.C03.demo_wf
#print axioms GapicModel.Props.C03.snake_is_translated
