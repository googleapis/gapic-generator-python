import GapicModel.Props.C13
#print axioms GapicModel.Props.C13.sampleName_no_slash
#print axioms GapicModel.Props.C13.sampleName_ne_nil
#print axioms GapicModel.Props.C13.sample_matches_template
#print axioms GapicModel.Props.C13.sample_names_fresh
#print axioms GapicModel.Props.C13.primitive_mock_well_typed
#print axioms GapicModel.Props.C13.float_mock_in_unit_interval
#print axioms GapicModel.Props.C13.int_mock_fits_int32
#print axioms GapicModel.Props.C13.repeated_items_truthy
#print axioms GapicModel.Props.C13.enum_mock_is_member
#print axioms GapicModel.Props.C13.mock_original_terminates
#print axioms GapicModel.Props.C13.mock_original_fits
#print axioms GapicModel.Props.C13.mock_original_strict_counterexample
#print axioms GapicModel.Props.C13.getLast_none_of_not_mem
#print axioms GapicModel.Props.C13.getLast_of_mem
#print axioms GapicModel.Props.C13.sampleRequest_paths
#print axioms GapicModel.Props.C13.mem_sampleRequest
#print axioms GapicModel.Props.C13.fill_matches
#print axioms GapicModel.Props.C13.mem_pieceVars
#print axioms GapicModel.Props.C13.sample_request_lookup
#print axioms GapicModel.Props.C13.http_sample_request_fills_rule
#print axioms GapicModel.Props.C13.http_sample_duplicate_var_counterexample
#print axioms GapicModel.Props.C13.node_chain
#print axioms GapicModel.Props.C13.mock_value_self_map_counterexample
#print axioms GapicModel.Props.C13.mock_value_depth_independent
