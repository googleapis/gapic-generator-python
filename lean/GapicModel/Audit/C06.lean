import GapicModel.Props.C06
#print axioms GapicModel.Props.C06.dictSet_eq
#print axioms GapicModel.Props.C06.restHeaders_eq
#print axioms GapicModel.Props.C06.dictSet_ne_nil
#print axioms GapicModel.Props.C06.grpcValues_append
#print axioms GapicModel.Props.C06.grpcValues_absent
#print axioms GapicModel.Props.C06.dictGet_restHeaders
#print axioms GapicModel.Props.C06.restHeaders_eq_nil
#print axioms GapicModel.Props.C06.restHeaders_keys_nodup
#print axioms GapicModel.Props.C06.mem_of_mem_restHeaders
#print axioms GapicModel.Props.C06.chain_eq_restHeaders
#print axioms GapicModel.Props.C06.no_template_passes_value
#print axioms GapicModel.Props.C06.template_contributes_capture
#print axioms GapicModel.Props.C06.key_is_named_segment
#print axioms GapicModel.Props.C06.contrib_nonempty
#print axioms GapicModel.Props.C06.contribs_other_keys
#print axioms GapicModel.Props.C06.grpcValues_contribs
#print axioms GapicModel.Props.C06.resolveExplicit_eq
#print axioms GapicModel.Props.C06.explicit_last_wins
#print axioms GapicModel.Props.C06.explicit_last_wins_split
#print axioms GapicModel.Props.C06.explicit_absent
#print axioms GapicModel.Props.C06.explicit_none_no_header
#print axioms GapicModel.Props.C06.explicit_values_nonempty
#print axioms GapicModel.Props.C06.explicit_keys_nodup
#print axioms GapicModel.Props.C06.filterMap_congr_mem
#print axioms GapicModel.Props.C06.contribSchema_eq
#print axioms GapicModel.Props.C06.schema_resolve_agrees
#print axioms GapicModel.Props.C06.schema_differs_on_empty
#print axioms GapicModel.Props.C06.scanTail_cons
#print axioms GapicModel.Props.C06.mergeToksTail_cons
#print axioms GapicModel.Props.C06.dstarOnlyLast_cons
#print axioms GapicModel.Props.C06.noDstar_dstarOnlyLast
#print axioms GapicModel.Props.C06.spanSeg_split
#print axioms GapicModel.Props.C06.spanSeg_append_noslash
#print axioms GapicModel.Props.C06.spanSeg_snd_cases
#print axioms GapicModel.Props.C06.spanSeg_fst_nil_iff
#print axioms GapicModel.Props.C06.andThen_eq
#print axioms GapicModel.Props.C06.andThen_assoc
#print axioms GapicModel.Props.C06.scanSlash_eq
#print axioms GapicModel.Props.C06.orElse_none_right
#print axioms GapicModel.Props.C06.m_seqR_append
#print axioms GapicModel.Props.C06.EndOk.orElse
#print axioms GapicModel.Props.C06.m_notSlash
#print axioms GapicModel.Props.C06.m_star_notSlash
#print axioms GapicModel.Props.C06.m_plus
#print axioms GapicModel.Props.C06.m_dstar
#print axioms GapicModel.Props.C06.m_eol_some
#print axioms GapicModel.Props.C06.atBoundary_chr_slash
#print axioms GapicModel.Props.C06.atBoundary_eol
#print axioms GapicModel.Props.C06.atBoundary_tail
#print axioms GapicModel.Props.C06.Scans.nl
#print axioms GapicModel.Props.C06.Scans.mono
#print axioms GapicModel.Props.C06.Scans.nil
#print axioms GapicModel.Props.C06.Scans.andThen
#print axioms GapicModel.Props.C06.scans_tok
#print axioms GapicModel.Props.C06.scans_slash
#print axioms GapicModel.Props.C06.scans_optRest
#print axioms GapicModel.Props.C06.After.tail
#print axioms GapicModel.Props.C06.after_eol
#print axioms GapicModel.Props.C06.scans_tail
#print axioms GapicModel.Props.C06.scans_toks
#print axioms GapicModel.Props.C06.templateItems_eq
#print axioms GapicModel.Props.C06.scans_pre
#print axioms GapicModel.Props.C06.run_named
#print axioms GapicModel.Props.C06.capture_eq_scan
#print axioms GapicModel.Props.C06.dstar_template_captures_all
#print axioms GapicModel.Props.C06.no_template_is_dstar_shorthand
#print axioms GapicModel.Props.C06.star_template_exact
#print axioms GapicModel.Props.C06.newline_counterexample
#print axioms GapicModel.Props.C06.dstar_not_last_counterexample
#print axioms GapicModel.Props.C06.unnamed_match_iff_scan
#print axioms GapicModel.Props.C06.isNamed_unbare
#print axioms GapicModel.Props.C06.tok?_unbare
#print axioms GapicModel.Props.C06.ofSegsAux_unbare
#print axioms GapicModel.Props.C06.bare_is_star
#print axioms GapicModel.Props.C06.many_named_rejected
#print axioms GapicModel.Props.C06.lit_items_plain
#print axioms GapicModel.Props.C06.dot_literal_counterexample
#print axioms GapicModel.Props.C06.matchSegs_nil_cons
#print axioms GapicModel.Props.C06.matchSegs_cons
#print axioms GapicModel.Props.C06.matchSegs_cons_nil
#print axioms GapicModel.Props.C06.litsOk_cons
#print axioms GapicModel.Props.C06.splitSlash_eq
#print axioms GapicModel.Props.C06.accepts_andThen
#print axioms GapicModel.Props.C06.accepts_scanTok
#print axioms GapicModel.Props.C06.accepts_scanTail
#print axioms GapicModel.Props.C06.scanToks_iff_matchSegs
#print axioms GapicModel.Props.C06.unnamed_regex_language
#print axioms GapicModel.Props.C06.unnamed_chain_raises_iff_language
#print axioms GapicModel.Props.C06.fh_fail
#print axioms GapicModel.Props.C06.findall_skip
#print axioms GapicModel.Props.C06.fh_match
#print axioms GapicModel.Props.C06.findall_var
#print axioms GapicModel.Props.C06.findall_path
#print axioms GapicModel.Props.C06.implicit_vars_exact
#print axioms GapicModel.Props.C06.primary_path_first_nonempty
#print axioms GapicModel.Props.C06.primary_path_of_rule
#print axioms GapicModel.Props.C06.implicit_depends_on_primary_path_only
#print axioms GapicModel.Props.C06.custom_verb_routes_like_get
#print axioms GapicModel.Props.C06.implicit_rule_vars_exact
#print axioms GapicModel.Props.C06.implicit_header_iff
#print axioms GapicModel.Props.C06.splitDots_eq
#print axioms GapicModel.Props.C06.joinDots_eq
#print axioms GapicModel.Props.C06.suffixSeg_nodot
#print axioms GapicModel.Props.C06.suffixSeg_eq
#print axioms GapicModel.Props.C06.suffixSeg_ok
#print axioms GapicModel.Props.C06.implicit_reads_suffixed_sends_raw
#print axioms GapicModel.Props.C06.disambiguated_undotted
#print axioms GapicModel.Props.C06.disambiguated_segments
#print axioms GapicModel.Props.C06.attr_path_valid
#print axioms GapicModel.Props.C06.implicit_reserved_top_level
#print axioms GapicModel.Props.C06.suffixed_not_reserved
#print axioms GapicModel.Props.C06.implicit_dotted_keyword_regression
#print axioms GapicModel.Props.C06.explicit_field_keyword_regression
#print axioms GapicModel.Props.C06.disambiguated_eq_translated
#print axioms GapicModel.Props.C06.disambiguated_is_field_header
#print axioms GapicModel.Props.C06.disambiguated_is_routing_param_field
#print axioms GapicModel.Props.C06.explicit_replaces_implicit
#print axioms GapicModel.Props.C06.empty_rule_no_header
#print axioms GapicModel.Props.C06.client_streaming_explicit_sends_nothing
#print axioms GapicModel.Props.C06.client_streaming_implicit_empty_value
#print axioms GapicModel.Props.C06.no_http_rule_no_header
#print axioms GapicModel.Props.C06.hexDigit_safe
#print axioms GapicModel.Props.C06.pctByte_safe
#print axioms GapicModel.Props.C06.encode_output_safe
#print axioms GapicModel.Props.C06.encode_no_separators
#print axioms GapicModel.Props.C06.rest_value_is_last_grpc_value
#print axioms GapicModel.Props.C06.grpcValues_callMetadata
#print axioms GapicModel.Props.C06.transports_agree_on_routing_header
#print axioms GapicModel.Props.C06.every_transport_carries_the_header
#print axioms GapicModel.Props.C06.rest_keeps_other_metadata
#print axioms GapicModel.Props.C06.caller_supplied_header_counterexample
#print axioms GapicModel.Props.C06.mem_of_mem_read
#print axioms GapicModel.Props.C06.runProgram_eq
#print axioms GapicModel.Props.C06.program_store_unchanged
#print axioms GapicModel.Props.C06.program_wire_stateless
#print axioms GapicModel.Props.C06.program_one_header_per_call
