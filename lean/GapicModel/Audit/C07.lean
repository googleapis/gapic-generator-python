import GapicModel.Props.C07
#print axioms GapicModel.Props.C07.paged_iff
#print axioms GapicModel.Props.C07.pagedField_isSome
#print axioms GapicModel.Props.C07.max_results_preferred
#print axioms GapicModel.Props.C07.size_types_exact
#print axioms GapicModel.Props.C07.mistyped_max_results_hides_page_size
#print axioms GapicModel.Props.C07.repeated_token_not_paged
#print axioms GapicModel.Props.C07.items_all_once_in_order
#print axioms GapicModel.Props.C07.stops_at_first_empty_token
#print axioms GapicModel.Props.C07.requests_thread_tokens
#print axioms GapicModel.Props.C07.request_tokens
#print axioms GapicModel.Props.C07.requests_exact
#print axioms GapicModel.Props.C07.repeated_token_does_not_stop
#print axioms GapicModel.Props.C07.page_size_does_not_stop
#print axioms GapicModel.Props.C07.attrs_are_last_page
#print axioms GapicModel.Props.C07.program_requests_thread_tokens
#print axioms GapicModel.Props.C07.program_attrs_most_recent_page
#print axioms GapicModel.Props.C07.attr_reads_current_page
#print axioms GapicModel.Props.C07.iterate_k_times
#print axioms GapicModel.Props.C07.fresh_iterator_starts_at_current_page
#print axioms GapicModel.Props.C07.new_iterator_k_times
#print axioms GapicModel.Props.C07.list_pager_eq_run
#print axioms GapicModel.Props.C07.reiteration_yields_last_page
#print axioms GapicModel.Props.C07.requests_only_on_demand
#print axioms GapicModel.Props.C07.wrapOf_eq_pager
#print axioms GapicModel.Props.C07.exposed_as_paginated_iff
#print axioms GapicModel.Props.C07.pager_gets_first_response_iff_unary
#print axioms GapicModel.Props.C07.streaming_paged_pager_unusable_counterexample
#print axioms GapicModel.Props.C07.wrap_agrees_with_client_output_partial
#print axioms GapicModel.Props.C07.extended_operation_paged_mismatch_counterexample
