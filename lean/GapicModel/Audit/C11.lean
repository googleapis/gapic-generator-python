import GapicModel.Props.C11
#print axioms GapicModel.Props.C11.cleanSeg_of_anchor
#print axioms GapicModel.Props.C11.cleanSeg_of_no_dot
#print axioms GapicModel.Props.C11.varText_clean
#print axioms GapicModel.Props.C11.cleanOpt_no_slash
#print axioms GapicModel.Props.C11.filter_clean
#print axioms GapicModel.Props.C11.flatten_no_slash
#print axioms GapicModel.Props.C11.segOut_clean
#print axioms GapicModel.Props.C11.getFilename_clean
#print axioms GapicModel.Props.C11.getFilename_append
#print axioms GapicModel.Props.C11.python_under_package_root
#print axioms GapicModel.Props.C11.templates_evaluated
#print axioms GapicModel.Props.C11.names_relative_normalised
#print axioms GapicModel.Props.C11.templates_init_closed
#print axioms GapicModel.Props.C11.init_templates_never_gated
#print axioms GapicModel.Props.C11.private_templates_skipped
#print axioms GapicModel.Props.C11.metadata_gate
#print axioms GapicModel.Props.C11.proto_files_only_for_target_protos
#print axioms GapicModel.Props.C11.splitOn_eq
#print axioms GapicModel.Props.C11.joinDots_eq
#print axioms GapicModel.Props.C11.splitOn_append
#print axioms GapicModel.Props.C11.parseOpts_append
#print axioms GapicModel.Props.C11.parseOpts_single
#print axioms GapicModel.Props.C11.contributes_foreign
#print axioms GapicModel.Props.C11.unknown_options_ignored
#print axioms GapicModel.Props.C11.foreign_key_containing_prefix_ignored
#print axioms GapicModel.Props.C11.values_none
#print axioms GapicModel.Props.C11.values_mid
#print axioms GapicModel.Props.C11.lastValue_last_wins
#print axioms GapicModel.Props.C11.firstValue_first_wins
#print axioms GapicModel.Props.C11.name_override_last_wins
#print axioms GapicModel.Props.C11.warehouse_name_last_wins
#print axioms GapicModel.Props.C11.transport_first_wins
#print axioms GapicModel.Props.C11.package_dir_from_last_name
#print axioms GapicModel.Props.C11.new_naming_versioned_eq
#print axioms GapicModel.Props.C11.overriddenModule_is_translated
#print axioms GapicModel.Props.C11.overriddenVersioned_is_translated
#print axioms GapicModel.Props.C11.versionedModule_is_translated
#print axioms GapicModel.Props.C11.namespace_dirs_are_module_namespace
#print axioms GapicModel.Props.C11.packageDir_is_translated
#print axioms GapicModel.Props.C11.appended_name_wins
#print axioms GapicModel.Props.C11.naming_examples
#print axioms GapicModel.Props.C11.pattern_facts
#print axioms GapicModel.Props.C11.groups_clean
#print axioms GapicModel.Props.C11.infer_clean
#print axioms GapicModel.Props.C11.inferred_segments_clean
#print axioms GapicModel.Props.C11.nsOverride_eq_flatMap
#print axioms GapicModel.Props.C11.nsOverride_spelling
#print axioms GapicModel.Props.C11.nsOverride_segments_clean
#print axioms GapicModel.Props.C11.nsWith_cases
#print axioms GapicModel.Props.C11.response_names_unique
#print axioms GapicModel.Props.C11.unversioned_renders_have_duplicates
#print axioms GapicModel.Props.C11.views_closed
#print axioms GapicModel.Props.C11.views_exact
#print axioms GapicModel.Props.C11.templateOn_of_alwaysOn
#print axioms GapicModel.Props.C11.renderTemplate_shapeOf
#print axioms GapicModel.Props.C11.sub_view
#print axioms GapicModel.Props.C11.proto_file_under_own_subpackage
#print axioms GapicModel.Props.C11.service_file_under_own_subpackage
#print axioms GapicModel.Props.C11.per_view_file_on_every_prefix
#print axioms GapicModel.Props.C11.rendered_views_from_targets
#print axioms GapicModel.Props.C11.typesTemplate_facts
#print axioms GapicModel.Props.C11.every_target_proto_has_types_module
#print axioms GapicModel.Props.C11.valid_filename_charset
#print axioms GapicModel.Props.C11.valid_module_name_charset
#print axioms GapicModel.Props.C11.valid_module_name_no_slash
#print axioms GapicModel.Props.C11.module_namespace_no_slash
#print axioms GapicModel.Props.C11.valid_module_name_idempotent
#print axioms GapicModel.Props.C11.namespace_dirs_are_module_namespace_of_charset
#print axioms GapicModel.Props.C11.namespace_dir_differs_outside_charset
#print axioms GapicModel.Props.C11.package_root_segment_no_slash
