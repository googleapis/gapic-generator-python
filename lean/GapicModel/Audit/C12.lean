import GapicModel.Props.C12
#print axioms GapicModel.Props.C12.reserved_no_dot
#print axioms GapicModel.Props.C12.invalid_module_suffix_valid
#print axioms GapicModel.Props.C12.isReserved_eq
#print axioms GapicModel.Props.C12.isInvalidModule_eq
#print axioms GapicModel.Props.C12.one_underscore
#print axioms GapicModel.Props.C12.attr_not_reserved
#print axioms GapicModel.Props.C12.attr_of_reserved_not_reserved
#print axioms GapicModel.Props.C12.attr_is_not_keyword
#print axioms GapicModel.Props.C12.attr_injective_partial
#print axioms GapicModel.Props.C12.attr_collision_counterexample
#print axioms GapicModel.Props.C12.uri_variable_resolves
#print axioms GapicModel.Props.C12.header_resolves
#print axioms GapicModel.Props.C12.header_dotted_regression
#print axioms GapicModel.Props.C12.flatten_key_resolves
#print axioms GapicModel.Props.C12.flatten_key_regression
#print axioms GapicModel.Props.C12.routing_field_resolves
#print axioms GapicModel.Props.C12.attr_path_no_keyword
#print axioms GapicModel.Props.C12.flatten_param_not_keyword
#print axioms GapicModel.Props.C12.toJsonNameAux_snoc_underscore
#print axioms GapicModel.Props.C12.json_name_suffix_invariant
#print axioms GapicModel.Props.C12.toSnakeCase_plain
#print axioms GapicModel.Props.C12.splitSep_ne_nil
#print axioms GapicModel.Props.C12.camel_pieces_eq_json
#print axioms GapicModel.Props.C12.toCamelCase_eq_toJsonName
#print axioms GapicModel.Props.C12.required_key_is_json_name_table
#print axioms GapicModel.Props.C12.required_key_counterexample
#print axioms GapicModel.Props.C12.required_key_ordinary
#print axioms GapicModel.Props.C12.client_method_name_rule
#print axioms GapicModel.Props.C12.rpc_method_name_not_keyword
#print axioms GapicModel.Props.C12.rpc_method_name_not_keyword_table
#print axioms GapicModel.Props.C12.file_name_one_underscore
#print axioms GapicModel.Props.C12.file_name_kept
#print axioms GapicModel.Props.C12.keyword_file_flattened_same_word_aliased
#print axioms GapicModel.Props.C12.raw_signature_names_would_not_alias
#print axioms GapicModel.Props.C12.mem_collidingModules
#print axioms GapicModel.Props.C12.shared_module_name_aliased
#print axioms GapicModel.Props.C12.wrapper_module_collision_aliased
#print axioms GapicModel.Props.C12.wrapper_refs_needed
#print axioms GapicModel.Props.C12.import_binds_reference_name
#print axioms GapicModel.Props.C12.plus_dep_alias_reaches_import
#print axioms GapicModel.Props.C12.plus_dep_import_without_alias_breaks
#print axioms GapicModel.Props.C12.plus_dep_imports_shipped_module
#print axioms GapicModel.Props.C12.pb2_dep_imports_shipped_module
#print axioms GapicModel.Props.C12.pb2_dep_import_counterexample
#print axioms GapicModel.Props.C12.plus_dep_unrenamed_import_breaks
#print axioms GapicModel.Props.C12.toSnakeCase_is_translated
#print axioms GapicModel.Props.C12.clientMethodName_is_translated
#print axioms GapicModel.Props.C12.translated_name_segment_is_attr
#print axioms GapicModel.Props.C12.translated_field_path_segmentwise
#print axioms GapicModel.Props.C12.translated_uri_variable_resolves
#print axioms GapicModel.Props.C12.translated_import_binds_reference_name
#print axioms GapicModel.Props.C12.translated_alias_iff_collision
#print axioms GapicModel.Props.C12.translated_alias_frees_the_name
#print axioms GapicModel.Props.C12.translated_alias_never_raises
#print axioms GapicModel.Props.C12.translated_alias_not_injective_counterexample
#print axioms GapicModel.Props.C12.translated_alias_distinct_iff_initials_partial
#print axioms GapicModel.Props.C12.translated_versioned_package_subpackage_counterexample
#print axioms GapicModel.Props.C12.import_str_eq
#print axioms GapicModel.Props.C12.translated_import_line_shape
#print axioms GapicModel.Props.C12.hand_python_import_is_translated
#print axioms GapicModel.Props.C12.hand_bound_is_translated
#print axioms GapicModel.Props.C12.hand_is_proto_plus_is_translated
#print axioms GapicModel.Props.C12.hand_reference_module_is_translated
