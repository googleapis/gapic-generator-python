import GapicModel.Props.C18
#print axioms GapicModel.Props.C18.lookup_cons_eq
#print axioms GapicModel.Props.C18.lookup_assign
#print axioms GapicModel.Props.C18.eq_nil_iff_lookup
#print axioms GapicModel.Props.C18.getField_name
#print axioms GapicModel.Props.C18.nested_path_not_found
#print axioms GapicModel.Props.C18.fieldErrs_missing
#print axioms GapicModel.Props.C18.fieldErrs_found
#print axioms GapicModel.Props.C18.fieldErrs_nil_iff
#print axioms GapicModel.Props.C18.not_fieldOk_iff
#print axioms GapicModel.Props.C18.classify_no_method
#print axioms GapicModel.Props.C18.classify_streaming
#print axioms GapicModel.Props.C18.classify_fields
#print axioms GapicModel.Props.C18.classify_none_iff
#print axioms GapicModel.Props.C18.violation_not_ok
#print axioms GapicModel.Props.C18.not_ok_violation
#print axioms GapicModel.Props.C18.verdict_snoc
#print axioms GapicModel.Props.C18.verdict_eq_none_iff
#print axioms GapicModel.Props.C18.mem_step_fst
#print axioms GapicModel.Props.C18.step_lookup
#print axioms GapicModel.Props.C18.inv_step
#print axioms GapicModel.Props.C18.inv_foldl
#print axioms GapicModel.Props.C18.filter_selector_of_nodup
#print axioms GapicModel.Props.C18.validate_lookup
#print axioms GapicModel.Props.C18.accepted_iff
#print axioms GapicModel.Props.C18.accepted_eq_true_iff
#print axioms GapicModel.Props.C18.each_single_violation_rejected
#print axioms GapicModel.Props.C18.rejected_has_violation
#print axioms GapicModel.Props.C18.violation_reported
#print axioms GapicModel.Props.C18.violation_named
#print axioms GapicModel.Props.C18.duplicates_rejected
#print axioms GapicModel.Props.C18.duplicate_reported
#print axioms GapicModel.Props.C18.repeated_string_rejected
#print axioms GapicModel.Props.C18.view_accepts_implies_api_accepts
#print axioms GapicModel.Props.C18.getMethod_viewOf
#print axioms GapicModel.Props.C18.viewOf_subApi
#print axioms GapicModel.Props.C18.generate_eq_validate
#print axioms GapicModel.Props.C18.generate_nil_iff
#print axioms GapicModel.Props.C18.generate_single_view
#print axioms GapicModel.Props.C18.generation_rejects_invalid
#print axioms GapicModel.Props.C18.generation_rejects_each_single_violation
#print axioms GapicModel.Props.C18.generation_rejects_duplicates
#print axioms GapicModel.Props.C18.generation_accepts_valid
#print axioms GapicModel.Props.C18.valid_settings_with_subpackage_view_accepted
#print axioms GapicModel.Props.C18.prune_internal
#print axioms GapicModel.Props.C18.prune_no_allow_list
#print axioms GapicModel.Props.C18.prune_omit
#print axioms GapicModel.Props.C18.prune_subApi
#print axioms GapicModel.Props.C18.selective_generation_rejects_invalid
#print axioms GapicModel.Props.C18.selective_generation_rejects_unknown_selector
#print axioms GapicModel.Props.C18.omitted_method_settings_rejected
#print axioms GapicModel.Props.C18.hidden_request_never_accepted
#print axioms GapicModel.Props.C18.valid_entry_on_hidden_request_accepted
#print axioms GapicModel.Props.C18.needsId_iff
#print axioms GapicModel.Props.C18.needsId_congr
#print axioms GapicModel.Props.C18.needsId_of_set
#print axioms GapicModel.Props.C18.popStep_some
#print axioms GapicModel.Props.C18.popStep_ctr_le
#print axioms GapicModel.Props.C18.popStep_lookup_other
#print axioms GapicModel.Props.C18.populate_nil_fields
#print axioms GapicModel.Props.C18.populate_cons
#print axioms GapicModel.Props.C18.populate_append
#print axioms GapicModel.Props.C18.populate_ctr_le
#print axioms GapicModel.Props.C18.populate_keeps
#print axioms GapicModel.Props.C18.populate_sets
#print axioms GapicModel.Props.C18.startObj_none
#print axioms GapicModel.Props.C18.startObj_of_ne_none
#print axioms GapicModel.Props.C18.pipeline_eq_syncBody
#print axioms GapicModel.Props.C18.call_eq
#print axioms GapicModel.Props.C18.macro_on_all_paths
#print axioms GapicModel.Props.C18.call_sends
#print axioms GapicModel.Props.C18.populate_iff_unset
#print axioms GapicModel.Props.C18.none_mode_populates_all
#print axioms GapicModel.Props.C18.provided_value_kept
#print axioms GapicModel.Props.C18.other_fields_untouched
#print axioms GapicModel.Props.C18.fresh_across_calls
#print axioms GapicModel.Props.C18.inst_mode_mutates_caller
#print axioms GapicModel.Props.C18.instance_reuse_same_id
#print axioms GapicModel.Props.C18.settingsFor_selector
#print axioms GapicModel.Props.C18.settingsFor_of_nodup
#print axioms GapicModel.Props.C18.no_settings_no_population
#print axioms GapicModel.Props.C18.no_name_error
#print axioms GapicModel.Props.C18.importsUuid_iff
#print axioms GapicModel.Props.C18.importsUuid_of_any_fields
#print axioms GapicModel.Props.C18.pages_keep_id
#print axioms GapicModel.Props.C18.pages_count
#print axioms GapicModel.Props.C18.instance_reuse_counterexample
