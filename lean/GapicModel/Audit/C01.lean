import GapicModel.Props.C01
#print axioms GapicModel.Props.C01.registry_exact
#print axioms GapicModel.Props.C01.default_grpc_when_requested
#print axioms GapicModel.Props.C01.default_rest_otherwise
#print axioms GapicModel.Props.C01.no_default_without_transport
#print axioms GapicModel.Props.C01.any_supported_list
#print axioms GapicModel.Props.C01.supported_optsOf
#print axioms GapicModel.Props.C01.gate_optsOf
#print axioms GapicModel.Props.C01.gate_table
#print axioms GapicModel.Props.C01.emitted_eq
#print axioms GapicModel.Props.C01.transport_modules_exact
#print axioms GapicModel.Props.C01.async_client_iff
#print axioms GapicModel.Props.C01.one_client_per_service
#print axioms GapicModel.Props.C01.relOk_all
#print axioms GapicModel.Props.C01.imports_resolve_optsOf
#print axioms GapicModel.Props.C01.gate_of_emitted
#print axioms GapicModel.Props.C01.service_modules_emitted_exact
#print axioms GapicModel.Props.C01.service_imports_resolve
#print axioms GapicModel.Props.C01.async_rest_without_grpc_breaks_imports
#print axioms GapicModel.Props.C01.service_imports_resolve_counterexample
#print axioms GapicModel.Props.C01.relative_imports_resolve
#print axioms GapicModel.Props.C01.intra_service_imports_resolve
#print axioms GapicModel.Props.C01.registry_classes_imported
#print axioms GapicModel.Props.C01.client_imports_only_registered
#print axioms GapicModel.Props.C01.client_names_exported
#print axioms GapicModel.Props.C01.async_client_exported_iff_grpc
#print axioms GapicModel.Props.C01.twoPackages_iff
#print axioms GapicModel.Props.C01.module_collision_iff
#print axioms GapicModel.Props.C01.collision_across_messages
#print axioms GapicModel.Props.C01.per_message_subset
#print axioms GapicModel.Props.C01.per_message_misses_counterexample
#print axioms GapicModel.Props.C01.per_message_eq_single
#print axioms GapicModel.Props.C01.empty_append_newline
#print axioms GapicModel.Props.C01.empty_line
#print axioms GapicModel.Props.C01.empty_iff_lines
#print axioms GapicModel.Props.C01.keep_rule
