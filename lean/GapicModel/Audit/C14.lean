import GapicModel.Props.C14
#print axioms GapicModel.Props.C14.sampleTransports_eq
#print axioms GapicModel.Props.C14.sampleTransports_flavours
#print axioms GapicModel.Props.C14.mem_sampleSpecs
#print axioms GapicModel.Props.C14.specs_keys_nodup
#print axioms GapicModel.Props.C14.specs_of_rpc
#print axioms GapicModel.Props.C14.splitOn_append_us
#print axioms GapicModel.Props.C14.noUs_syncOrAsync
#print axioms GapicModel.Props.C14.splitOn_regionTag
#print axioms GapicModel.Props.C14.specs_exact
#print axioms GapicModel.Props.C14.region_tag_format
#print axioms GapicModel.Props.C14.region_tags_unique
#print axioms GapicModel.Props.C14.region_tags_unique_counterexample
#print axioms GapicModel.Props.C14.calling_form_total
#print axioms GapicModel.Props.C14.go_append
#print axioms GapicModel.Props.C14.View.go_congr
#print axioms GapicModel.Props.C14.View.skip_all
#print axioms GapicModel.Props.C14.View.skip
#print axioms GapicModel.Props.C14.inner_view
#print axioms GapicModel.Props.C14.outer_view
#print axioms GapicModel.Props.C14.full_segment
#print axioms GapicModel.Props.C14.pyBound_natCast
#print axioms GapicModel.Props.C14.pySlice_natCast
#print axioms GapicModel.Props.C14.fullSnippetLines_eq
#print axioms GapicModel.Props.C14.full_snippet_between_tags
#print axioms GapicModel.Props.C14.segments_ordered_contiguous
#print axioms GapicModel.Props.C14.void_sample_segments_counterexample
#print axioms GapicModel.Props.C14.demoLines_kinds
#print axioms GapicModel.Props.C14.segments_depend_only_on_kinds
#print axioms GapicModel.Props.C14.blank_line_removed_shifts_segments_counterexample
#print axioms GapicModel.Props.C14.selectedOneofs_filter
#print axioms GapicModel.Props.C14.requiredNonOneof_filter
#print axioms GapicModel.Props.C14.request_one_member_per_oneof
#print axioms GapicModel.Props.C14.fieldsEntries_ok
#print axioms GapicModel.Props.C14.fieldsEntries_error
#print axioms GapicModel.Props.C14.entry_paths_required
#print axioms GapicModel.Props.C14.entries_come_from_request_fields
#print axioms GapicModel.Props.C14.request_has_field
#print axioms GapicModel.Props.C14.request_has_required
#print axioms GapicModel.Props.C14.required_message_unpopulated_counterexample
#print axioms GapicModel.Props.C14.oneof_first_member_message_unpopulated_counterexample
#print axioms GapicModel.Props.C14.required_proto3_optional_populated
#print axioms GapicModel.Props.C14.request_has_every_required_path
#print axioms GapicModel.Props.C14.second_use_of_a_type_is_populated
#print axioms GapicModel.Props.C14.mock_values_non_default
#print axioms GapicModel.Props.C14.ranked_of_all
#print axioms GapicModel.Props.C14.request_object_terminates
#print axioms GapicModel.Props.C14.request_object_diverges_counterexample
#print axioms GapicModel.Props.C14.groups_add_keys
#print axioms GapicModel.Props.C14.groups_add_nodup
#print axioms GapicModel.Props.C14.groupEntries_nodup
#print axioms GapicModel.Props.C14.buildT_base
#print axioms GapicModel.Props.C14.transform_bases_nodup
#print axioms GapicModel.Props.C14.ids_are_tags_when_unique
#print axioms GapicModel.Props.C14.sample_ids_equal_region_tags
#print axioms GapicModel.Props.C14.sample_id_collision_counterexample
#print axioms GapicModel.Props.C14.called_method_matches_client
#print axioms GapicModel.Props.C14.keyword_rpc_called_method
#print axioms GapicModel.Props.C14.metadata_params_shape
#print axioms GapicModel.Props.C14.metadata_flattened_names_are_leaf_names
#print axioms GapicModel.Props.C14.suffixed_no_dot
#print axioms GapicModel.Props.C14.flattened_name_ne_key
#print axioms GapicModel.Props.C14.flattened_name_eq_key_top_level
#print axioms GapicModel.Props.C14.ne_wrapped
#print axioms GapicModel.Props.C14.streamShaped_metadataResultType
#print axioms GapicModel.Props.C14.yieldsStream_callingForm
#print axioms GapicModel.Props.C14.metadata_result_type_stream_iff
#print axioms GapicModel.Props.C14.metadata_result_type_void
#print axioms GapicModel.Props.C14.lro_paged_not_stream
#print axioms GapicModel.Props.C14.upd_any_service
#print axioms GapicModel.Props.C14.upd_find
#print axioms GapicModel.Props.C14.locate_upd
#print axioms GapicModel.Props.C14.put_keys
#print axioms GapicModel.Props.C14.getSnippet_addSnippet
#print axioms GapicModel.Props.C14.get_add_own_flavour
#print axioms GapicModel.Props.C14.add_keeps_other_flavour
#print axioms GapicModel.Props.C14.add_keeps_other_methods
#print axioms GapicModel.Props.C14.internal_async_snippet_filed_async
