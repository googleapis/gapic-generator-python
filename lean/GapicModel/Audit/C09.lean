import GapicModel.Props.C09
#print axioms GapicModel.Props.C09.select_named_first
#print axioms GapicModel.Props.C09.select_none_iff
#print axioms GapicModel.Props.C09.names_method_iff
#print axioms GapicModel.Props.C09.select_none_of_names
#print axioms GapicModel.Props.C09.select_only_own_service
#print axioms GapicModel.Props.C09.selector_sub_package_samples
#print axioms GapicModel.Props.C09.service_level_entries_select_nothing
#print axioms GapicModel.Props.C09.unnamed_single_attempt_no_deadline
#print axioms GapicModel.Props.C09.ofName_name
#print axioms GapicModel.Props.C09.classesOf_codes
#print axioms GapicModel.Props.C09.toFloat_samples
#print axioms GapicModel.Props.C09.to_float_decimal_value
#print axioms GapicModel.Props.C09.to_float_whole_value
#print axioms GapicModel.Props.C09.to_float_nanos_value
#print axioms GapicModel.Props.C09.to_float_signed_value
#print axioms GapicModel.Props.C09.to_float_unit_unchecked
#print axioms GapicModel.Props.C09.to_float_canonical_roundtrip
#print axioms GapicModel.Props.C09.to_float_nanos_roundtrip
#print axioms GapicModel.Props.C09.seconds_nanos_spellings_agree
#print axioms GapicModel.Props.C09.toFloat_exponent_samples
#print axioms GapicModel.Props.C09.emitted_params_exact
#print axioms GapicModel.Props.C09.timeout_without_retry
#print axioms GapicModel.Props.C09.empty_timeout_is_none
#print axioms GapicModel.Props.C09.timeoutOf_literal
#print axioms GapicModel.Props.C09.effective_params
#print axioms GapicModel.Props.C09.truthy_eq
#print axioms GapicModel.Props.C09.deadline_is_timeout
#print axioms GapicModel.Props.C09.timeout_reaches_table
#print axioms GapicModel.Props.C09.timeout_literal_reaches_table
#print axioms GapicModel.Props.C09.backoff_literals_reach_table
#print axioms GapicModel.Props.C09.excOfCode_injective
#print axioms GapicModel.Props.C09.excOfCode_base_iff
#print axioms GapicModel.Props.C09.retryable_iff
#print axioms GapicModel.Props.C09.retryable_congr_mem
#print axioms GapicModel.Props.C09.retryable_iff_listed
#print axioms GapicModel.Props.C09.ok_listed_retries_every_error_counterexample
#print axioms GapicModel.Props.C09.bound_nonneg
#print axioms GapicModel.Props.C09.bound_le_maximum
#print axioms GapicModel.Props.C09.bound_le_geometric
#print axioms GapicModel.Props.C09.wait_le_bound
#print axioms GapicModel.Props.C09.sumBounds_nonneg
#print axioms GapicModel.Props.C09.bound_closed_form
#print axioms GapicModel.Props.C09.other_error_one_attempt
#print axioms GapicModel.Props.C09.deadline_exceeded_stops
#print axioms GapicModel.Props.C09.run_none
#print axioms GapicModel.Props.C09.run_retry_step
#print axioms GapicModel.Props.C09.run_cons
#print axioms GapicModel.Props.C09.no_retry_one_attempt
#print axioms GapicModel.Props.C09.run_retryable_prefix
#print axioms GapicModel.Props.C09.retry_on_exact_codes
#print axioms GapicModel.Props.C09.retry_on_exact_codes_replicate
#print axioms GapicModel.Props.C09.other_error_after_retries
#print axioms GapicModel.Props.C09.wait_eq
#print axioms GapicModel.Props.C09.waits_bounded
#print axioms GapicModel.Props.C09.waits_between_attempts
#print axioms GapicModel.Props.C09.attempts_le_retryable_prefix
#print axioms GapicModel.Props.C09.attemptTimeout_zero
#print axioms GapicModel.Props.C09.run_head_attempt
#print axioms GapicModel.Props.C09.first_attempt_carries_timeout
#print axioms GapicModel.Props.C09.attempt_timeout_le
#print axioms GapicModel.Props.C09.deadline_respected
#print axioms GapicModel.Props.C09.no_deadline_never_retry_error
#print axioms GapicModel.Props.C09.explicit_overrides_default
#print axioms GapicModel.Props.C09.explicit_each_independent
#print axioms GapicModel.Props.C09.explicit_none_single_attempt
#print axioms GapicModel.Props.C09.last_retry_config_wins
#print axioms GapicModel.Props.C09.no_retry_config_all_unnamed
#print axioms GapicModel.Props.C09.ownEntries_spec
#print axioms GapicModel.Props.C09.wrapped_table_spec
#print axioms GapicModel.Props.C09.mixin_single_attempt_no_deadline
