import GapicModel.Model.Names
import GapicModel.Pinned.Funcs
import GapicModel.Lemmas.AddressT
import GapicModel.Lemmas.SplitJoin
import GapicModel.Lemmas.Snake
import GapicModel.Lemmas.Tables
/-
C12 — reserved-word and colliding names are disambiguated without altering the wire.
Everything rests on one rule, `fieldAttr` (a reserved word gets one `_`, `one_underscore`; the result is never reserved,
`attr_not_reserved`), on the finite facts about the bridged tables (Lemmas/Tables.lean) and on `json_name_suffix_invariant` (the wire name
does not see the suffix).  Then, position by position: attribute paths, RPC and module names, colliding modules and their aliases, the import
statement; and the same facts over the functions TRANSLATED from the current source (`to_snake_case`, `client_method_name`,
`_fix_field_path`, the `Address` methods of Lemmas/AddressT.lean), re-stated here so that the check audits them with the property, with the
hand-written model proved equal to the translation at the end.
-/
namespace GapicModel.Props.C12
open GapicModel.Model.Names

/-! ## Finite facts about the (bridged) tables: those of `Lemmas/Tables.lean`, read over `String` -/

theorem reserved_no_dot : ∀ w ∈ Pinned.reservedNames, '.' ∉ w.toList := fun _ hw =>
  Tables.reserved_no_dot _ (Tables.mem_reserved.mpr hw)

theorem invalid_module_suffix_valid :
    ∀ w ∈ Pinned.pyKeywords ++ Pinned.invalidModuleExtra, isInvalidModule (w ++ "_") = false := by
  intro w hw
  simpa [isInvalidModule, not_or] using Tables.suffixed_not_mem_invalidModule hw

/-- for test vectors: the look-ups on the explicit character tables (a `String` comparison is dear in the kernel) -/
theorem isReserved_eq (w : String) : isReserved w = Tables.reserved.contains w.toList := by
  rw [isReserved, Tables.contains_eq, Tables.reserved_eq]

theorem isInvalidModule_eq (w : String) :
    isInvalidModule w = (Tables.keywords.contains w.toList || Tables.invalidModuleExtra.contains w.toList) := by
  rw [isInvalidModule, Tables.contains_eq, Tables.contains_eq, Tables.keywords_eq, Tables.invalidModuleExtra_eq]

/-- exactly one trailing underscore, and exactly for reserved words -/
theorem one_underscore (n : String) :
    (isReserved n = true → fieldAttr n = n ++ "_") ∧ (isReserved n = false → fieldAttr n = n) := by
  unfold fieldAttr; constructor <;> intro h <;> simp [h]

/-- the attribute of a field is never a reserved word, whatever the field is called -/
theorem attr_not_reserved (n : String) : isReserved (fieldAttr n) = false := Tables.suffix_reserved_not_reserved n

/-- the suffixed attribute is itself not reserved: suffixing happens once and is stable -/
theorem attr_of_reserved_not_reserved (n : String) (h : isReserved n = true) : isReserved (fieldAttr n) = false :=
  attr_not_reserved n

/-- the attribute of a field is never a Python keyword, whatever the field is called -/
theorem attr_is_not_keyword (n : String) : isKeyword (fieldAttr n) = false := Tables.suffix_reserved_not_keyword n

/-- two different fields get different attributes, unless one of them is literally `<reserved>_`
(`class` and `class_` in one message collide — `attr_collision_counterexample`) -/
theorem attr_injective_partial (a b : String)
    (ha : ∀ r, isReserved r = true → a ≠ r ++ "_") (hb : ∀ r, isReserved r = true → b ≠ r ++ "_")
    (h : fieldAttr a = fieldAttr b) : a = b := by
  unfold fieldAttr at h
  by_cases hra : isReserved a = true <;> by_cases hrb : isReserved b = true
  · simp only [hra, hrb, if_true] at h
    exact (String.append_left_inj "_").mp h
  · simp only [hra, hrb, if_true] at h
    exact absurd h.symm (hb a hra)
  · simp only [hra, hrb, if_true] at h
    exact absurd h (ha b hrb)
  · simpa [hra, hrb] using h

theorem attr_collision_counterexample : fieldAttr "class" = fieldAttr "class_" ∧ "class" ≠ "class_" := by
  simp -index only [fieldAttr, isReserved_eq, String.toList_ofList]
  decide +kernel

/-! ## Positions: does the rendered attribute path reach the field? (`attrPath` is what Python needs) -/

/-- HTTP path variables and body names rewritten by `convert_uri_fieldnames`: always right, any depth -/
theorem uri_variable_resolves (p : Path) : uriVar p = attrPath p := rfl

/-- implicit routing headers (`FieldHeader.disambiguated`): right at any depth since the C12 `fix:`
commit (before it `{book.class=…}` made the client read `request.book.class`, DESIGN §9-F1) -/
theorem header_resolves (p : Path) : headerAttr p = attrPath p := rfl

/-- regression witness for §9-F1 evaluated on the model -/
theorem header_dotted_regression : headerAttr ["book", "class"] = ["book", "class_"] := by
  simp -index only [headerAttr, List.map, fieldAttr, isReserved_eq, String.toList_ofList]
  decide +kernel

/-- flattened parameters: the key `request.<key> = <param>` is right at any depth since the `fix:`
commit (before it `method_signature = "import.name"` gave `request.import.name`, DESIGN §9-F2) -/
theorem flatten_key_resolves (p : Path) : flattenKey p = attrPath p := rfl

theorem flatten_key_regression : flattenKey ["import", "name"] = ["import_", "name"] := by
  simp -index only [flattenKey, List.map, fieldAttr, isReserved_eq, String.toList_ofList]
  decide +kernel

/-- explicit routing parameters read the suffixed attribute path (added by a `fix:` commit; before it a
routing field named `class` gave `request.class`) -/
theorem routing_field_resolves (p : Path) : routingFieldAttr p = attrPath p := rfl

/-- no segment of a resolved attribute path is a keyword, so `request.<path>` always parses -/
theorem attr_path_no_keyword (p : Path) : ∀ s ∈ attrPath p, isKeyword s = false := by
  intro s hs
  obtain ⟨w, _, rfl⟩ := List.mem_map.mp hs
  exact attr_is_not_keyword w

/-- the keyword parameter offered for a flattened field is the suffixed terminal name, never a keyword -/
theorem flatten_param_not_keyword (p : Path) (n : String) (h : flattenParam p = some n) : isKeyword n = false := by
  obtain ⟨l, _, rfl⟩ := Option.map_eq_some_iff.mp h
  exact attr_is_not_keyword l

/-! ## The wire keeps the original names -/

theorem toJsonNameAux_snoc_underscore (up : Bool) (w : List Char) :
    toJsonNameAux up (w ++ ['_']) = toJsonNameAux up w := by
  induction w generalizing up with
  | nil => simp [toJsonNameAux]
  | cons c cs ih => simp only [List.cons_append, toJsonNameAux, ih]

/-- protobuf's lowerCamel JSON name drops a trailing underscore: the JSON key of `word_` is that of `word` -/
theorem json_name_suffix_invariant (w : List Char) : toJsonName (w ++ ['_']) = toJsonName w :=
  toJsonNameAux_snoc_underscore false w

def plain (c : Char) : Prop := ¬('A' ≤ c ∧ c ≤ 'Z') ∧ c ≠ '-'

theorem toSnakeCase_plain {s : List Char} (h : ∀ c ∈ s, plain c) : toSnakeCase s = s := by
  rw [Lemmas.Snake.toSnakeCase_eq_snake]
  refine Lemmas.Snake.snake_of_noCap s fun c hc hcap => (h c hc).1 ?_
  simp only [Char.le_def, UInt32.le_iff_toNat_le]
  exact hcap

theorem splitSep_ne_nil (s : List Char) : splitSep s ≠ [] := by
  cases s with
  | nil => simp [splitSep]
  | cons c cs =>
    rw [splitSep]
    split
    · simp
    · split <;> simp

/-- joining the capitalised pieces is protobuf's scan, in both of its states (after a letter, after an underscore) -/
theorem camel_pieces_eq_json (s : List Char) (h : ∀ c ∈ s, plain c) :
    ∀ hd tl, splitSep s = hd :: tl →
      hd.map lowerChar ++ (tl.map capitalize).flatten = toJsonNameAux false s ∧
      capitalize hd ++ (tl.map capitalize).flatten = toJsonNameAux true s := by
  induction s with
  | nil => intro hd tl e; simp [splitSep] at e; obtain ⟨rfl, rfl⟩ := e; simp [toJsonNameAux, capitalize]
  | cons c cs ih =>
    intro hd tl e
    rw [splitSep] at e
    cases hs : splitSep cs with
    | nil => exact absurd hs (splitSep_ne_nil cs)
    | cons h' t' =>
      obtain ⟨ih1, ih2⟩ := ih (fun d hd => h d (List.mem_cons_of_mem _ hd)) h' t' hs
      rw [hs] at e
      by_cases hc : c = '_'
      · subst hc
        simp only [true_or, if_true, List.cons.injEq] at e
        obtain ⟨rfl, rfl⟩ := e
        simpa [toJsonNameAux, show capitalize [] = [] from rfl] using ih2
      · obtain ⟨hcap, hdash⟩ := h c List.mem_cons_self
        simp only [hc, hdash, or_self, if_false, List.cons.injEq] at e
        obtain ⟨rfl, rfl⟩ := e
        simp [toJsonNameAux, show capitalize (c :: h') = upperChar c :: h'.map lowerChar from rfl, hc, ← ih1, lowerChar, hcap]

/-- on a text without capital letters and hyphens the generator's `camel_case` is protobuf's JSON name -/
theorem toCamelCase_eq_toJsonName (s : List Char) (h : ∀ c ∈ s, plain c) : toCamelCase s = toJsonName s := by
  unfold toCamelCase
  rw [toSnakeCase_plain h]
  cases e : splitSep s with
  | nil => exact absurd e (splitSep_ne_nil s)
  | cons hd tl => exact (camel_pieces_eq_json s h hd tl e).1

/-- REST, REQUIRED query fields: the transport's table of required fields is keyed by `camel_case(Field.name)`, the
ATTRIBUTE name (already suffixed). For every reserved word without a capital letter that key IS the JSON name of
the field (the suffix is dropped again), so an unset required field goes out under its original name and a set one
is recognised as set: no reserved word holds a hyphen, so this is `toCamelCase_eq_toJsonName` on the suffixed word -/
theorem required_key_is_json_name_table :
    ∀ w ∈ Pinned.reservedNames, noUpper w = true → toCamelCase (fieldAttr w).toList = toJsonName w.toList := by
  intro w hw hu
  rw [(one_underscore w).1 (List.contains_iff_mem.mpr hw), Tables.toList_suffixed, ← json_name_suffix_invariant]
  refine toCamelCase_eq_toJsonName _ fun c hc => ?_
  rcases List.mem_append.mp hc with hc | hc
  · exact ⟨by simpa only [Bool.not_eq_true', decide_eq_false_iff_not] using List.all_eq_true.mp hu c hc,
      fun e => Tables.reserved_no_dash _ (Tables.mem_reserved.mpr hw) (e ▸ hc)⟩
  · rw [List.mem_singleton.mp hc]; exact ⟨by decide, by decide⟩

example : "class" ∈ Pinned.reservedNames ∧ noUpper "class" = true := by
  rw [← List.contains_iff_mem, ← isReserved, isReserved_eq, noUpper]
  simp -index only [String.toList_ofList]
  decide +kernel

/-- the same key for the three capitalised reserved words is lower-cased (`to_snake_case` lower-cases), the JSON
name is not: the table key `none` never meets the JSON key `None` (findings/C12.json, rest-required-query-key-lowercased) -/
theorem required_key_counterexample :
    toCamelCase (fieldAttr "None").toList = "none".toList ∧ toJsonName "None".toList = "None".toList := by
  simp -index only [fieldAttr, isReserved_eq, apply_ite String.toList, Tables.toList_suffixed, String.toList_ofList]
  rw [toCamelCase, Lemmas.Snake.toSnakeCase_eq_snake, Lemmas.Snake.snake_eq_scan]
  decide +kernel

/-- multi-word ordinary names: the key is the lowerCamel JSON name -/
theorem required_key_ordinary : toCamelCase "page_size".toList = toJsonName "page_size".toList ∧
    toCamelCase "display_name".toList = "displayName".toList := by
  simp -index only [String.toList_ofList]
  rw [toCamelCase, toCamelCase, Lemmas.Snake.toSnakeCase_eq_snake, Lemmas.Snake.toSnakeCase_eq_snake,
    Lemmas.Snake.snake_eq_scan, Lemmas.Snake.snake_eq_scan]
  decide +kernel

/-- an RPC named like a keyword gets exactly one underscore at the client level; other names are kept -/
theorem client_method_name_rule (n : String) :
    (isKeyword (lower n) = true → clientMethodName n = n ++ "_") ∧
    (isKeyword (lower n) = false → clientMethodName n = n) := by
  unfold clientMethodName; constructor <;> intro h <;> simp [h]

/-- the emitted method name `snake_case(client_method_name)` of any RPC is not a keyword: `to_snake_case` only inserts
underscores, and no keyword holds one -/
theorem rpc_method_name_not_keyword (n : String) :
    isKeyword (String.ofList (toSnakeCase (clientMethodName n).toList)) = false := by
  rw [Lemmas.Snake.isKeyword_ofList, Lemmas.Snake.clientMethodName_toList, Lemmas.Snake.toSnakeCase_eq_snake,
    ← Bool.not_eq_true, List.contains_iff_mem]
  exact Lemmas.Snake.clientAttr_not_keyword _ Lemmas.Snake.pinned_kw_no_underscore _

/-- for every Python keyword (as written, and capitalised like an RPC name) the emitted method name
`snake_case(client_method_name)` is not a keyword: two instances of `rpc_method_name_not_keyword` per keyword -/
theorem rpc_method_name_not_keyword_table :
    ∀ k ∈ Pinned.pyKeywords,
      isKeyword (String.ofList (toSnakeCase (clientMethodName k).toList)) = false ∧
      isKeyword (String.ofList (toSnakeCase (clientMethodName (String.ofList (match k.toList with
        | c :: cs => upperChar c :: cs | [] => []))).toList)) = false :=
  fun _ _ => ⟨rpc_method_name_not_keyword _, rpc_method_name_not_keyword _⟩

/-- a proto file named by a keyword, a client control parameter or `__init__` gets exactly one underscore
(when that name is free in its directory), and the result is a valid module name -/
theorem file_name_one_underscore (visited : List String) (fuel : Nat) (n : String)
    (hinv : n ∈ Pinned.pyKeywords ++ Pinned.invalidModuleExtra) (hfree : n ++ "_" ∉ visited) :
    disambFile visited (fuel + 1) n = n ++ "_" ∧ isInvalidModule (n ++ "_") = false := by
  have h1 : isInvalidModule n = true := by simpa [isInvalidModule] using hinv
  exact ⟨by simp [disambFile, h1, hfree], invalid_module_suffix_valid n hinv⟩

/-- any other free name is left alone -/
theorem file_name_kept (visited : List String) (fuel : Nat) (n : String)
    (h1 : isInvalidModule n = false) (h2 : n ∉ visited) :
    disambFile visited (fuel + 1) n = n := by
  simp [disambFile, h1, h2]

/-! ## A keyword-named file whose word is also a flattened parameter: the module is aliased -/

/-- a proto file named by a keyword `k` becomes module `k_`; a method that flattens the top-level field `k` offers the parameter `k_`,
which would shadow the module inside the method: the module IS imported under its alias in that method's context, whatever else the
service names and the signatures hold -/
theorem keyword_file_flattened_same_word_aliased (k : String) (hk : k ∈ Pinned.pyKeywords)
    (svcNames : List String) (sigFields : List Path) (hsig : [k] ∈ sigFields) :
    isAliased (methodCollisions svcNames sigFields) (disambFile [] 1 k) = true := by
  have hfile : disambFile [] 1 k = k ++ "_" :=
    (file_name_one_underscore [] 0 k (List.mem_append_left _ hk) (by simp)).1
  have hres : isReserved k = true := List.contains_iff_mem.mpr (Tables.keyword_mem_reserved hk)
  have hkey : joinDots (flattenKey [k]) = k ++ "_" := by
    simp [flattenKey, fieldAttr, hres, joinDots]
  rw [hfile, isAliased, Bool.or_eq_true, List.contains_iff_mem]
  exact .inl (List.mem_append_right _ (List.mem_map.mpr ⟨[k], hsig, hkey⟩))

example : "class" ∈ Pinned.pyKeywords ∧ ([["parent"], ["class"]] : List Path).contains ["class"] = true := by decide +kernel

/-- why the KEYS (suffixed) and not the raw signature names must enter the set: with the raw name the module `class_` is not aliased -/
theorem raw_signature_names_would_not_alias :
    isAliased (["Library", "LibraryClient", "LibraryAsyncClient", "create_item"] ++ ["parent", "class"]) "class_" = false ∧
    isAliased (methodCollisions ["Library", "LibraryClient", "LibraryAsyncClient", "create_item"] [["parent"], ["class"]]) "class_" = true := by
  simp -index only [isAliased, methodCollisions, flattenKey, List.map, fieldAttr, isReserved_eq, String.toList_ofList]
  decide +kernel

/-! ## A types module named like a module the service code imports: aliased -/

theorem mem_collidingModules {refs : List Ref} {m p₁ p₂ : String} (h₁ : (m, p₁) ∈ refs) (h₂ : (m, p₂) ∈ refs)
    (hne : p₁ ≠ p₂) : m ∈ collidingModules refs :=
  List.mem_filterMap.mpr ⟨(m, p₁), h₁, by
    rw [if_pos (List.any_eq_true.mpr ⟨(m, p₂), h₂, by simp [Ne.symm hne]⟩)]⟩

/-- two referenced types with the same module name from different packages: the module name is in `Service.names`, hence in the
collision set of every method (whatever it flattens), hence aliased -/
theorem shared_module_name_aliased (own methods : List String) (refs : List Ref) (sigFields : List Path)
    (m p₁ p₂ : String) (h₁ : (m, p₁) ∈ refs) (h₂ : (m, p₂) ∈ refs) (hne : p₁ ≠ p₂) :
    isAliased (methodCollisions (serviceNames own methods refs) sigFields) m = true := by
  rw [isAliased, methodCollisions, serviceNames, Bool.or_eq_true, List.contains_iff_mem]
  exact .inl (List.mem_append_left _ (List.mem_append_right _ (mem_collidingModules h₁ h₂ hne)))

/-- an API file `operation.proto` of a service with a long-running method: the types module `operation` and
`google.api_core.operation` are both aliased in every method's context (likewise `operation_async`, `pagers`, `extended_operation`) -/
theorem wrapper_module_collision_aliased (own methods : List String) (sigFields : List Path) (rest : List Ref) (pkg svcPkg : String)
    (hpkg : pkg ≠ "google.api_core") (hsvc : pkg ≠ svcPkg) :
    (∀ m ∈ ["operation", "operation_async"],
      isAliased (methodCollisions (serviceNames own methods ((m, pkg) :: wrapperRefs true false false svcPkg ++ rest)) sigFields) m = true) ∧
    isAliased (methodCollisions (serviceNames own methods (("pagers", pkg) :: wrapperRefs false false true svcPkg ++ rest)) sigFields) "pagers" = true ∧
    isAliased (methodCollisions (serviceNames own methods (("extended_operation", pkg) :: wrapperRefs false true false svcPkg ++ rest)) sigFields)
      "extended_operation" = true := by
  refine ⟨?_, ?_, ?_⟩
  · intro m hm
    simp only [List.mem_cons, List.not_mem_nil, or_false] at hm
    rcases hm with rfl | rfl <;>
      exact shared_module_name_aliased _ _ _ _ _ pkg "google.api_core" (by simp) (by simp [wrapperRefs]) hpkg
  · exact shared_module_name_aliased _ _ _ _ _ pkg svcPkg (by simp) (by simp [wrapperRefs]) hsvc
  · exact shared_module_name_aliased _ _ _ _ _ pkg "google.api_core" (by simp) (by simp [wrapperRefs]) hpkg

example : ("acme.lib_v1.types" : String) ≠ "google.api_core" ∧ ("acme.lib_v1.types" : String) ≠ "acme.lib_v1.services.library" := by decide +kernel

/-- with the wrapper types left out of the count, `operation` is used from one package only and is not aliased -/
theorem wrapper_refs_needed :
    isAliased (methodCollisions (serviceNames ["Library"] ["move_book"] [("operation", "acme.lib_v1.types")]) []) "operation" = false ∧
    isAliased (methodCollisions (serviceNames ["Library"] ["move_book"]
      (("operation", "acme.lib_v1.types") :: wrapperRefs true false false "acme.lib_v1.services.library")) []) "operation" = true := by
  simp -index only [isAliased, isReserved_eq, String.toList_ofList]
  decide +kernel

/-! ## The import statement binds the name the references use -/

/-- for every kind of type (python wrapper, own API, proto-plus dependency, `_pb2` dependency), any module name and any alias (empty or
not): the local name bound by `Address.python_import` is the module part of `str(Address)` that every reference in the emitted code uses -/
theorem import_binds_reference_name (k : ImportKind) (module alias : String) :
    (pythonImport k module alias).bound = referenceModule k module alias := by
  by_cases h : alias = "" <;> cases k <;> simp [pythonImport, PyImport.bound, referenceModule, isProtoPlus, h]

/-- a proto-plus dependency whose module collides (`common` of `acme.dep.v1` next to the API's own `common`) is imported AND referred to
under its package-derived alias; its `_pb2` counterpart needs none -/
theorem plus_dep_alias_reaches_import :
    (pythonImport .plusDep "common" "ad_common").bound = "ad_common" ∧ referenceModule .plusDep "common" "ad_common" = "ad_common" ∧
    (pythonImport .pb2 "common" "ad_common").bound = "common_pb2" ∧ referenceModule .pb2 "common" "ad_common" = "common_pb2" := by decide +kernel

/-- why the alias must reach the import of the proto-plus branch: an import without it binds `common`, references say `ad_common` -/
theorem plus_dep_import_without_alias_breaks :
    (PyImport.mk "common" "").bound ≠ referenceModule .plusDep "common" "ad_common" := by decide +kernel

/-! ## The module imported for a dependency file is the module the dependency ships -/

/-- a proto-plus dependency file, whatever its name (keyword, control parameter, ordinary): the importing library and the dependency's own
library put the name through the same renaming, so the import names the module that exists (`request.proto` -> `request_` in both) -/
theorem plus_dep_imports_shipped_module (visited : List String) (n : String) :
    importedDepModule visited n true = shippedDepModule visited n true := by
  simp only [importedDepModule, shippedDepModule, if_true]

/-- a plain `_pb2` dependency file with a valid, free module name: the import names protoc's module -/
theorem pb2_dep_imports_shipped_module (visited : List String) (n : String)
    (h1 : isInvalidModule n = false) (h2 : n ∉ visited) :
    importedDepModule visited n false = shippedDepModule visited n false := by
  simp [importedDepModule, shippedDepModule, file_name_kept visited (visited.length + 1) n h1 h2]

example : isInvalidModule "common" = false ∧ "common" ∉ ([] : List String) := by
  simp -index only [isInvalidModule_eq, String.toList_ofList]
  decide +kernel

/-- ... but named by a keyword or a control parameter it is renamed like an own file, and the import names a module protoc never writes
(findings/C12.json, pb2-dependency-file-named-by-invalid-module-name:import) -/
theorem pb2_dep_import_counterexample :
    importedDepModule [] "metadata" false = "metadata__pb2" ∧ shippedDepModule [] "metadata" false = "metadata_pb2" ∧
    importedDepModule [] "import" false = "import__pb2" ∧ shippedDepModule [] "import" false = "import_pb2" := by
  simp -index only [importedDepModule, shippedDepModule, disambFile, isInvalidModule_eq, String.toList_ofList]
  decide +kernel

/-- were dependency files NOT renamed, the proto-plus dependency would be imported under a name its library does not ship -/
theorem plus_dep_unrenamed_import_breaks : ("request" : String) ≠ shippedDepModule [] "request" true := by
  simp -index only [shippedDepModule, disambFile, isInvalidModule_eq, String.toList_ofList]
  decide +kernel

/-! ## `toSnakeCase` IS the code's current `to_snake_case` (translated by harness/pyfun2lean.py, re-bridged on every run) -/

theorem toSnakeCase_is_translated (s : List Char) : toSnakeCase s = Pinned.Funcs.to_snake_case s :=
  (Lemmas.Snake.toSnakeCase_eq_snake s).trans (Lemmas.Snake.snake_eq_translated s)

/-! ## `clientMethodName` IS the code's current `Method.client_method_name` (non-internal methods; translated by
harness/pyfun2lean.py from gapic/schema/wrappers.py and re-bridged on every run) -/

section TranslatedMethodName
open GapicModel.PyRt

theorem clientMethodName_is_translated (w : String) :
    (clientMethodName w).toList = Pinned.Funcs.client_method_name w.toList false := by
  -- `Model.Grpc.clientMethodName` over the pinned tables is the translation, word for word
  rw [Lemmas.Snake.clientMethodName_toList, Model.Grpc.clientMethodName, Pinned.Funcs.client_method_name, if_neg Bool.false_ne_true]
  rfl

end TranslatedMethodName

/-! ## HTTP path variables over the code's current `_fix_name_segment` / `_fix_field_path` (gapic/utils/uri_conv.py, translated
by harness/pyfun2lean.py and re-bridged on every run): `uri_variable_resolves` above is about the hand-written `uriVar`; these
say the same of the translated bodies, at every depth -/
section TranslatedUriVariable
open GapicModel.PyRt

/-- the translated `_fix_name_segment` is `fieldAttr`: one trailing underscore exactly for the words of the reserved list -/
theorem translated_name_segment_is_attr (w : String) :
    Pinned.Funcs.fix_name_segment w.toList = (fieldAttr w).toList := by
  have hr : strIn w.toList (Pinned.reservedNames.map String.toList) = isReserved w := (Tables.contains_eq _ _).symm
  rw [Pinned.Funcs.fix_name_segment, hr, fieldAttr, apply_ite String.toList, Tables.toList_suffixed]

/-- the translated `_fix_field_path` works segment by segment on ANY dotted path: `".".join(p)` becomes
`".".join(_fix_name_segment(s) for s in p)` — for every number of segments (a version that treats only the last one or
two segments, or the whole dotted string, is refuted by this equation) -/
theorem translated_field_path_segmentwise (p : List Str) (hne : p ≠ []) (hd : ∀ s ∈ p, '.' ∉ s) :
    Pinned.Funcs.fix_field_path (join ['.'] p) = join ['.'] (p.map Pinned.Funcs.fix_name_segment) := by
  unfold Pinned.Funcs.fix_field_path
  rw [Lemmas.SplitJoin.split_join '.' p hne hd]

/-- **the variable `convert_uri_fieldnames` writes for a dotted path IS the dotted attribute path** (`attrPath`: what Python
must evaluate on the proto-plus request to reach the field), for every path of field names (no segment holds a `.`) -/
theorem translated_uri_variable_resolves (p : Path) (hne : p ≠ []) (hd : ∀ s ∈ p, '.' ∉ s.toList) :
    Pinned.Funcs.fix_field_path (join ['.'] (p.map String.toList)) = join ['.'] ((attrPath p).map String.toList) := by
  rw [translated_field_path_segmentwise _ (by simpa using hne) (by
    intro s hs
    obtain ⟨w, hw, rfl⟩ := List.mem_map.mp hs
    exact hd w hw)]
  congr 1
  simp only [attrPath, List.map_map]
  exact List.map_congr_left (fun w _ => translated_name_segment_is_attr w)

/-- three segments, reserved words in non-leaf positions (the shape the trial change `seeded/seed13_C12` breaks), evaluated on the translated body -/
example : Pinned.Funcs.fix_field_path "entry.import.name".toList = "entry.import_.name".toList ∧
    Pinned.Funcs.fix_field_path "class.b.in.x".toList = "class_.b.in_.x".toList := by
  simp -index only [String.toList_ofList]
  unfold Pinned.Funcs.fix_field_path Pinned.Funcs.fix_name_segment
  simp only [Tables.reserved_eq]
  decide +kernel

end TranslatedUriVariable

/-! ## `Address` naming over the method bodies translated from the current source (Model/AddressT.lean, Lemmas/AddressT.lean)

These are stated about `Pinned.Funcs.address_*`, the translations of `Address.__str__`, `module_alias`, `python_import`, … as they
stand in /repo (bridged by `rfl` to the translation of the current tree on every run), composed the way the properties call each
other — not about a hand-written model: a change of one of those method bodies breaks the bridge lemma named after it. -/
section TranslatedAddress
open GapicModel.Model.AddressT GapicModel.Lemmas.AddressT GapicModel.PyRt GapicModel.Pinned.Funcs

/-- **the import binds the name the references use**, for every address and naming, in all four import branches -/
theorem translated_import_binds_reference_name (a : Addr) (hm : truthy a.module = true) (hn : NamingInv a.naming) :
    str a = join ['.'] ([bound (pythonImport a)] ++ a.parent ++ [a.name]) :=
  import_binds_str_head a hm hn

/-- there is an alias exactly when the module name collides with a name of the file or is reserved, and it is `<initials>_<module>` -/
theorem translated_alias_iff_collision (m : Str) (c pk : List Str) (v : Str) :
    (address_module_alias m c pk v = [] ∧ (strIn m c || strIn m (Pinned.reservedNames.map String.toList)) = false) ∨
    (∃ ini, address_module_alias m c pk v = ini ++ ['_'] ++ m ∧ (strIn m c || strIn m (Pinned.reservedNames.map String.toList)) = true) :=
  module_alias_shape m c pk v

/-- an alias never equals the module name it replaces -/
theorem translated_alias_frees_the_name (m : Str) (c pk : List Str) (v : Str) (h : address_module_alias m c pk v ≠ []) :
    address_module_alias m c pk v ≠ m :=
  module_alias_ne_module m c pk v h

/-- `module_alias` raises for no input (since a6e34e6; before it the statement was false: `lib_`, `a__b`) -/
theorem translated_alias_never_raises (m : Str) (c pk : List Str) (v : Str) : address_module_alias_ok m c pk v = true :=
  module_alias_never_raises m c pk v

/-- **the clause "two imported modules that share a base name get a package-derived alias (each its own)" fails** on the current source:
the sub-packages `admin` and `audit` of `acme.lib.v1` have the same initials, `common.proto` of both is imported `as ala_common`
(findings/C12.json, `alias-collision:same-initials`; corpus/C12/alias_collision_same_initials.json is this input run for real) -/
theorem translated_alias_not_injective_counterexample :
    address_module_alias "common".toList ["common".toList] ["acme".toList, "lib".toList, "v1".toList, "admin".toList] "v1".toList =
    address_module_alias "common".toList ["common".toList] ["acme".toList, "lib".toList, "v1".toList, "audit".toList] "v1".toList :=
  alias_not_injective_counterexample

/-- what does hold (`_partial`: "different packages ⇒ different aliases" is false, see the counterexample): two colliding modules of the
same base name get different aliases exactly when the initials of their packages differ -/
theorem translated_alias_distinct_iff_initials_partial (m : Str) (c1 c2 pk1 pk2 : List Str) (v : Str)
    (h1 : (strIn m c1 || strIn m (Pinned.reservedNames.map String.toList)) = true)
    (h2 : (strIn m c2 || strIn m (Pinned.reservedNames.map String.toList)) = true) :
    address_module_alias m c1 pk1 v = address_module_alias m c2 pk2 v ↔ initials pk1 v = initials pk2 v :=
  alias_distinct_iff_initials_partial m c1 c2 pk1 pk2 v h1 h2

example : (strIn "common".toList ["common".toList] || strIn "common".toList (Pinned.reservedNames.map String.toList)) = true := by decide +kernel

/-- **a proto-plus dependency type in a SUB-package of a versioned package is imported from a path its library does not have**:
`convert_to_versioned_package` recognises the version only as the last segment (`acme.dep.v1.sub` stays as it is, `acme.dep.v1` becomes
`acme.dep_v1`), while the dependency's own library is `acme/dep_v1/sub/types/…` (findings/C12.json, `proto-plus-dep:sub-package-of-versioned`;
corpus/C12/proto_plus_dep_subpackage.json is this input run for real) -/
theorem translated_versioned_package_subpackage_counterexample :
    address_versioned_package ["acme".toList, "dep".toList, "v1".toList, "sub".toList]
      = ["acme".toList, "dep".toList, "v1".toList, "sub".toList] ∧
    address_versioned_package ["acme".toList, "dep".toList, "v1".toList] = ["acme".toList, "dep_v1".toList] :=
  versioned_package_subpackage_counterexample

/-- non-vacuity: a colliding dependency module gets its alias on the import and in the reference; a `_pb2` dependency does not -/
example :
    let n : NamingV := ⟨true, "acme.lib.v1".toList, "v1".toList, ["acme".toList], "lib_v1".toList, ["acme.dep.v1".toList]⟩
    let d : Addr := ⟨"Mark".toList, "common".toList, ["acme".toList, "dep".toList, "v1".toList], [], ["common".toList], n⟩
    let g : Addr := ⟨"Timestamp".toList, "timestamp".toList, ["google".toList, "protobuf".toList], [], [], n⟩
    str d = "ad_common.Mark".toList ∧ bound (pythonImport d) = "ad_common".toList ∧
    (pythonImport d).package = ["acme".toList, "dep_v1".toList, "types".toList] ∧
    str g = "timestamp_pb2.Timestamp".toList ∧ bound (pythonImport g) = "timestamp_pb2".toList := by
  simp -index only [String.toList_ofList]
  unfold str Model.AddressT.pythonImport moduleAlias address_module_alias
  simp only [Tables.reserved_eq]
  decide +kernel

/-- `Import.__str__` (translated) in its four parts -/
theorem import_str_eq (alias module : Str) (package : List Str) :
    import_str alias module package =
      (if truthy package then "from ".toList ++ join ['.'] package ++ [' '] else []) ++ "import ".toList ++ module ++
        (if truthy alias then " as ".toList ++ alias else []) ++
        (if endswith module ['_', 'p', 'b', '2'] || strIn ['a', 'p', 'i', '_', 'c', 'o', 'r', 'e'] package
          then "  # type: ignore".toList else []) := by
  simp -index only [String.toList_ofList]
  unfold import_str
  cases truthy package <;> cases truthy alias <;>
    cases endswith module ['_', 'p', 'b', '2'] || strIn ['a', 'p', 'i', '_', 'c', 'o', 'r', 'e'] package <;>
    simp only [↓reduceIte, Bool.false_eq_true, List.append_assoc, List.append_nil, List.nil_append]

/-- the text of the emitted import statement binds `bound`: `[from <package> ]import <module>[ as <alias>][  # type: ignore]`
(over the translation of `Import.__str__`) -/
theorem translated_import_line_shape (alias module : Str) (package : List Str) :
    ∃ pre post, import_str alias module package =
        pre ++ "import ".toList ++ module ++ (if truthy alias then " as ".toList ++ alias else []) ++ post ∧
      (pre = [] ∨ pre = "from ".toList ++ join ['.'] package ++ [' ']) ∧
      (post = [] ∨ post = "  # type: ignore".toList) := by
  refine ⟨_, _, import_str_eq alias module package, ?_, ?_⟩
  · split
    · exact .inr rfl
    · exact .inl rfl
  · split
    · exact .inr rfl
    · exact .inl rfl

/-- non-vacuity: the three kinds of line -/
example :
    import_str "ad_common".toList "common".toList ["acme".toList, "dep_v1".toList, "types".toList]
      = "from acme.dep_v1.types import common as ad_common".toList ∧
    import_str [] "timestamp_pb2".toList ["google".toList, "protobuf".toList]
      = "from google.protobuf import timestamp_pb2  # type: ignore".toList ∧
    import_str [] "proto".toList [] = "import proto".toList := by
  simp -index only [String.toList_ofList]
  decide +kernel

end TranslatedAddress

/-! ## The hand-written import model (Model/Names.lean) agrees with the translation of the current source (Model/AddressT.lean)

`Names.pythonImport`, `PyImport.bound`, `isProtoPlus`, `referenceModule` were written by hand; the statements below tie them to
`Pinned.Funcs.address_python_import / address_str` as composed in Model/AddressT.lean, under the correspondence `Names.kindOf`
(which branch the address takes), module := `a.module`, alias := `moduleAlias a`. -/
section HandVsTranslated
open GapicModel.PyRt GapicModel.Pinned.Funcs

/-- module and alias of the import -/
theorem hand_python_import_is_translated (a : Model.AddressT.Addr) :
    Model.Names.pythonImport (Model.Names.kindOf a) (String.ofList a.module) (String.ofList (Model.AddressT.moduleAlias a)) =
      ⟨String.ofList (Model.AddressT.pythonImport a).module, String.ofList (Model.AddressT.pythonImport a).alias⟩ := by
  unfold Model.Names.kindOf Model.AddressT.pythonImport address_python_import
  cases a.naming.truthy <;> cases startswith (Model.AddressT.protoPackage a) a.naming.protoPackage <;>
    cases Model.AddressT.isProtoPlus a <;> simp [Model.Names.pythonImport]

theorem hand_bound_is_translated (a : Model.AddressT.Addr) :
    (Model.Names.pythonImport (Model.Names.kindOf a) (String.ofList a.module) (String.ofList (Model.AddressT.moduleAlias a))).bound =
      String.ofList (Model.AddressT.bound (Model.AddressT.pythonImport a)) := by
  rw [hand_python_import_is_translated, Model.Names.PyImport.bound, Model.AddressT.bound]
  cases (Model.AddressT.pythonImport a).alias <;> simp [truthy]

theorem hand_is_proto_plus_is_translated (a : Model.AddressT.Addr) (hn : Lemmas.AddressT.NamingInv a.naming) :
    Model.Names.isProtoPlus (Model.Names.kindOf a) = Model.AddressT.isProtoPlus a := by
  unfold Model.Names.kindOf
  cases ht : a.naming.truthy
  · simp [Model.Names.isProtoPlus, Model.AddressT.isProtoPlus, hn ht, Lemmas.AddressT.startswith_nil]
  · cases hs : startswith (Model.AddressT.protoPackage a) a.naming.protoPackage
    · cases hp : Model.AddressT.isProtoPlus a <;> rfl
    · simp [Model.Names.isProtoPlus, Model.AddressT.isProtoPlus, hs]

/-- the module part of a reference: `str a` starts with the hand model's `referenceModule` -/
theorem hand_reference_module_is_translated (a : Model.AddressT.Addr) (hm : truthy a.module = true) (hn : Lemmas.AddressT.NamingInv a.naming) :
    Model.AddressT.str a = join ['.'] ([(Model.Names.referenceModule (Model.Names.kindOf a) (String.ofList a.module)
      (String.ofList (Model.AddressT.moduleAlias a))).toList] ++ a.parent ++ [a.name]) := by
  rw [← import_binds_reference_name, hand_bound_is_translated, String.toList_ofList]
  exact Lemmas.AddressT.import_binds_str_head a hm hn

end HandVsTranslated

end GapicModel.Props.C12
