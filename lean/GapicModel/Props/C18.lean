import GapicModel.Model.AutoPop
import GapicModel.Lemmas.Keyed
/-
C18 — auto-populated request ids obey AIP-4235 at generation time and at call time (DESIGN §7.18).

Generation time: `validate` is a fold over the settings list whose error dict holds, under each selector, a function
of the entries that name that selector (`validate_lookup`, from the loop invariant `Inv`); acceptance, rejection and
the reported class are read off that equation, and `generate` is that validation as soon as one view renders a service.
Call time: the macro's loop is specified field by field (`populate_keeps`, `populate_sets`), and the four call paths run
one statement list (`call_eq`).
-/
namespace GapicModel.Props.C18
open GapicModel.Model.AutoPop

/-- one `auto_populated_fields` entry meets AIP-4235: a top-level field of the request message that is
a singular string, not REQUIRED, annotated UUID4 -/
def FieldOk (inp : List Field) (f : String) : Prop :=
  ∃ fd, getField inp f = some fd ∧ (fd.isStr = true ∧ fd.repeated = false) ∧ fd.required = false ∧ fd.uuid4 = true

/-- one method-settings entry is fine: the method exists and, if any field is listed, it is unary and
every listed field is fine -/
def EntryOk (api : List Method) (s : Settings) : Prop :=
  ∃ m, getMethod api s.selector = some m ∧
    (s.fields ≠ [] → m.clientStreaming = false ∧ m.serverStreaming = false ∧ ∀ f ∈ s.fields, FieldOk m.input f)

/-- a single violation of the statement's conditions by the entry `s` -/
inductive Violation (api : List Method) (s : Settings) : Prop where
  | noMethod : getMethod api s.selector = none → Violation api s
  | streaming (m : Method) : getMethod api s.selector = some m → s.fields ≠ [] →
      (m.clientStreaming = true ∨ m.serverStreaming = true) → Violation api s
  | missing (m : Method) (f : String) : getMethod api s.selector = some m → f ∈ s.fields →
      getField m.input f = none → Violation api s            -- not a top-level field (every nested path)
  | nonString (m : Method) (f : String) (fd : Field) : getMethod api s.selector = some m → f ∈ s.fields →
      getField m.input f = some fd → (fd.isStr = false ∨ fd.repeated = true) → Violation api s   -- incl. `repeated string`
  | required (m : Method) (f : String) (fd : Field) : getMethod api s.selector = some m → f ∈ s.fields →
      getField m.input f = some fd → fd.required = true → Violation api s
  | unannotated (m : Method) (f : String) (fd : Field) : getMethod api s.selector = some m → f ∈ s.fields →
      getField m.input f = some fd → fd.uuid4 = false → Violation api s

/-! ## Generation time: the validation -/

theorem lookup_cons_eq {β : Type} (a : String) (b : β) (l : List (String × β)) (k : String) :
    ((a, b) :: l).lookup k = if k = a then some b else l.lookup k := by
  rw [List.lookup_cons]
  by_cases h : k = a
  · rw [if_pos h, h, beq_self_eq_true]
  · rw [if_neg h, beq_false_of_ne h]

/-- `d[k] = v` read back (`assign` is `setErr` on `all_errors` here and `Req.set` on the request at call time) -/
theorem lookup_assign {β : Type} (l : List (String × β)) (k k' : String) (v : β) :
    (assign l k v).lookup k' = if k' = k then some v else l.lookup k' := by
  induction l with
  | nil => rw [assign, lookup_cons_eq, List.lookup_nil]
  | cons a l ih =>
    obtain ⟨a, b⟩ := a
    rw [assign]
    split
    · next e => subst e; rw [lookup_cons_eq, lookup_cons_eq]; split <;> rfl
    · next e =>
      rw [lookup_cons_eq, lookup_cons_eq, ih]
      by_cases h : k' = k
      · rw [if_pos h, if_pos h, if_neg (h ▸ Ne.symm e)]
      · rw [if_neg h, if_neg h]

theorem eq_nil_iff_lookup {β : Type} (l : List (String × β)) : l = [] ↔ ∀ k, l.lookup k = none :=
  match l with
  | [] => ⟨fun _ _ => rfl, fun _ => rfl⟩
  | (k, _) :: _ => ⟨nofun, fun h => nomatch List.lookup_cons_self.symm.trans (h k)⟩

theorem getField_name {inp : List Field} {f : String} {fd : Field} (h : getField inp f = some fd) : fd.name = f := by
  simpa using List.find?_some h

/-- a nested path can never be accepted: proto field names contain no dot, the lookup is by whole string -/
theorem nested_path_not_found (inp : List Field) (f : String)
    (hnames : ∀ fd ∈ inp, '.' ∉ fd.name.toList) (hf : '.' ∈ f.toList) : getField inp f = none :=
  List.find?_eq_none.mpr fun fd hfd e => hnames fd hfd (eq_of_beq e ▸ hf)

theorem fieldErrs_missing (inp : List Field) (f : String) (h : getField inp f = none) :
    fieldErrs inp f = [.notFound f] := by
  simp [fieldErrs, h]

theorem fieldErrs_found (inp : List Field) (f : String) (fd : Field) (h : getField inp f = some fd) :
    (FieldErr.notString f ∈ fieldErrs inp f ↔ (fd.isStr = false ∨ fd.repeated = true)) ∧
    (FieldErr.isRequired f ∈ fieldErrs inp f ↔ fd.required = true) ∧
    (FieldErr.notUuid4 f ∈ fieldErrs inp f ↔ fd.uuid4 = false) := by
  simp [fieldErrs, h, or_comm]

theorem fieldErrs_nil_iff (inp : List Field) (f : String) : fieldErrs inp f = [] ↔ FieldOk inp f := by
  unfold fieldErrs FieldOk
  cases getField inp f with
  | none => simp
  | some fd =>
    simp only [Option.some.injEq, exists_eq_left']
    cases fd.isStr <;> simp [and_comm]

theorem not_fieldOk_iff (inp : List Field) (f : String) :
    ¬ FieldOk inp f ↔ getField inp f = none ∨ ∃ fd, getField inp f = some fd ∧
      ((fd.isStr = false ∨ fd.repeated = true) ∨ fd.required = true ∨ fd.uuid4 = false) := by
  unfold FieldOk
  cases getField inp f with
  | none => simp
  | some fd =>
    simp only [Option.some.injEq, exists_eq_left', reduceCtorEq, false_or, Classical.not_and_iff_not_or_not,
      Bool.not_eq_true, Bool.not_eq_false]

/-- the error class of each violation (the code's order: not found → streaming → per field) -/
theorem classify_no_method (api : List Method) (s : Settings) (h : getMethod api s.selector = none) :
    classify api s = some .methodNotFound := by
  rw [classify, h]

theorem classify_streaming (api : List Method) (s : Settings) (m : Method) (h : getMethod api s.selector = some m)
    (hne : s.fields ≠ []) (hst : m.clientStreaming = true ∨ m.serverStreaming = true) :
    classify api s = some .notUnary := by
  rw [classify, h]
  simp only [List.isEmpty_iff, if_neg hne, Bool.or_eq_true, if_pos hst]

/-- on a unary method the per-field messages are exactly the failed conditions, field by field -/
theorem classify_fields (api : List Method) (s : Settings) (m : Method) (h : getMethod api s.selector = some m)
    (hu : m.clientStreaming = false ∧ m.serverStreaming = false) (hbad : ∃ f ∈ s.fields, ¬ FieldOk m.input f) :
    classify api s = some (.fields (s.fields.flatMap (fieldErrs m.input))) := by
  obtain ⟨f, hf, hb⟩ := hbad
  have hf' : s.fields.isEmpty = false := by simpa [List.isEmpty_iff] using List.ne_nil_of_mem hf
  have hne : (s.fields.flatMap (fieldErrs m.input)).isEmpty = false := by
    rw [Bool.eq_false_iff, ne_eq, List.isEmpty_iff, List.flatMap_eq_nil_iff]
    intro hall
    exact hb ((fieldErrs_nil_iff _ _).mp (hall f hf))
  simp [classify, h, hf', hu.1, hu.2, hne]

theorem classify_none_iff (api : List Method) (s : Settings) : classify api s = none ↔ EntryOk api s := by
  unfold classify EntryOk
  cases getMethod api s.selector with
  | none => simp
  | some m =>
    simp only [Option.some.injEq, exists_eq_left', List.isEmpty_iff]
    by_cases hf : s.fields = []
    · simp [hf]
    · rw [if_neg hf, ← and_assoc, ← Bool.or_eq_false_iff]
      cases m.clientStreaming || m.serverStreaming
      · simp [hf, List.flatMap_eq_nil_iff, fieldErrs_nil_iff]
      · simp [hf]

/-- `Violation` lists exactly the ways an entry fails `EntryOk`: each of them contradicts it … -/
theorem violation_not_ok {api : List Method} {s : Settings} (hv : Violation api s) : ¬ EntryOk api s := by
  rintro ⟨m, hm, hok⟩
  -- the field cases: the entry's own verdict on `f` contradicts the violation
  have field : ∀ m' f, getMethod api s.selector = some m' → f ∈ s.fields → FieldOk m'.input f := fun m' f h hf => by
    rw [h] at hm; cases hm; exact (hok (List.ne_nil_of_mem hf)).2.2 f hf
  cases hv with
  | noMethod h => rw [h] at hm; cases hm
  | streaming m' h hne hst =>
    rw [h] at hm; cases hm
    obtain ⟨h1, h2, _⟩ := hok hne
    exact hst.elim (fun h => Bool.false_ne_true (h1.symm.trans h)) fun h => Bool.false_ne_true (h2.symm.trans h)
  | missing m' f h hf hg => exact (not_fieldOk_iff _ _).mpr (.inl hg) (field m' f h hf)
  | nonString m' f fd h hf hg hb => exact (not_fieldOk_iff _ _).mpr (.inr ⟨fd, hg, .inl hb⟩) (field m' f h hf)
  | required m' f fd h hf hg hb => exact (not_fieldOk_iff _ _).mpr (.inr ⟨fd, hg, .inr (.inl hb)⟩) (field m' f h hf)
  | unannotated m' f fd h hf hg hb => exact (not_fieldOk_iff _ _).mpr (.inr ⟨fd, hg, .inr (.inr hb)⟩) (field m' f h hf)

/-- … and an entry that is not fine commits one of them -/
theorem not_ok_violation {api : List Method} {s : Settings} (h : ¬ EntryOk api s) : Violation api s := by
  cases hm : getMethod api s.selector with
  | none => exact .noMethod hm
  | some m =>
    by_cases hne : s.fields = []
    · exact absurd ⟨m, hm, fun h' => absurd hne h'⟩ h
    · by_cases hst : m.clientStreaming = true ∨ m.serverStreaming = true
      · exact .streaming m hm hne hst
      · rw [not_or, Bool.not_eq_true, Bool.not_eq_true] at hst
        have : ¬ ∀ f ∈ s.fields, FieldOk m.input f := fun hall => h ⟨m, hm, fun _ => ⟨hst.1, hst.2, hall⟩⟩
        simp only [Classical.not_forall] at this
        obtain ⟨f, hf, hbad⟩ := this
        rcases (not_fieldOk_iff _ _).mp hbad with hg | ⟨fd, hg, h1 | h2 | h3⟩
        · exact .missing m f hm hf hg
        · exact .nonString m f fd hm hf hg h1
        · exact .required m f fd hm hf hg h2
        · exact .unannotated m f fd hm hf hg h3

/-- what `validate` reports for a selector, as a function of the entries that name it: nothing if there is none, the
entry's own class if there is exactly one, "Duplicate selector" (replacing whatever the first occurrence produced)
otherwise -/
def verdict (api : List Method) : List Settings → Option Err
  | [] => none
  | [s] => classify api s
  | _ :: _ :: _ => some .duplicate

theorem verdict_snoc (api : List Method) (l : List Settings) (s : Settings) :
    verdict api (l ++ [s]) = if l = [] then classify api s else some .duplicate := by
  match l with
  | [] | [_] | _ :: _ :: _ => rfl

theorem verdict_eq_none_iff (api : List Method) (l : List Settings) :
    verdict api l = none ↔ l.length ≤ 1 ∧ ∀ s ∈ l, classify api s = none := by
  match l with
  | [] | [_] | _ :: _ :: _ => simp [verdict]

theorem mem_step_fst (api : List Method) (st : List String × Errors) (s : Settings) (k : String) :
    k ∈ (step api st s).1 ↔ k = s.selector ∨ k ∈ st.1 := by
  unfold step
  split
  · next hin => exact ⟨Or.inr, fun h => h.elim (· ▸ hin) id⟩
  · split <;> exact List.mem_cons

theorem step_lookup (api : List Method) (st : List String × Errors) (s : Settings) (k : String) :
    (step api st s).2.lookup k =
      if k = s.selector then (if s.selector ∈ st.1 then some .duplicate else (classify api s).or (st.2.lookup k))
      else st.2.lookup k := by
  unfold step setErr
  split
  · rw [lookup_assign]
  · cases classify api s with
    | none => exact (ite_self _).symm
    | some e => rw [lookup_assign]; rfl

/-- the loop invariant of `validate` after the entries `pre`: a selector has been seen iff an entry of `pre` names
it, and the dict holds for it the verdict on those entries -/
def Inv (api : List Method) (pre : List Settings) (st : List String × Errors) : Prop :=
  ∀ k, (k ∈ st.1 ↔ pre.filter (·.selector == k) ≠ []) ∧ st.2.lookup k = verdict api (pre.filter (·.selector == k))

theorem inv_step {api : List Method} {pre : List Settings} {st : List String × Errors} (h : Inv api pre st)
    (s : Settings) : Inv api (pre ++ [s]) (step api st s) := by
  intro k
  obtain ⟨h1, h2⟩ := h k
  rw [mem_step_fst, step_lookup, List.filter_append, List.filter_cons, List.filter_nil, h2]
  -- `s` joins the entries that name its own selector; under every other key nothing changes
  by_cases hk : k = s.selector
  · subst hk
    rw [beq_self_eq_true, if_pos rfl, if_pos rfl, verdict_snoc]
    refine ⟨iff_of_true (Or.inl rfl) (List.append_ne_nil_of_right_ne_nil _ (List.cons_ne_nil _ _)), ?_⟩
    by_cases hl : pre.filter (·.selector == s.selector) = []
    · rw [if_neg (mt h1.mp (not_not_intro hl)), if_pos hl, hl]; exact Option.or_none
    · rw [if_pos (h1.mpr hl), if_neg hl]
  · rw [beq_false_of_ne (Ne.symm hk), if_neg Bool.false_ne_true, if_neg hk, List.append_nil, h1]
    exact ⟨or_iff_right hk, rfl⟩

theorem inv_foldl {api : List Method} : ∀ (ss pre : List Settings) (st : List String × Errors), Inv api pre st →
    Inv api (pre ++ ss) (ss.foldl (step api) st)
  | [], pre, st, h => by rwa [List.append_nil]
  | s :: ss, pre, st, h => by
    have := inv_foldl ss _ _ (inv_step h s)
    rwa [List.append_assoc] at this

theorem filter_selector_of_nodup (ss : List Settings) (s : Settings)
    (hnd : (ss.map (·.selector)).Nodup) (hs : s ∈ ss) : ss.filter (fun t => t.selector == s.selector) = [s] :=
  Keyed.filter_eq_of_key (·.selector) _ s ss hnd hs fun _ => beq_iff_eq

/-- **What is reported for a selector**: the `verdict` on the entries that name it. -/
theorem validate_lookup (api : List Method) (ss : List Settings) (k : String) :
    (validate api ss).lookup k = verdict api (ss.filter (·.selector == k)) :=
  (inv_foldl (api := api) ss [] ([], []) (fun _ => ⟨by simp, rfl⟩) k).2

/-- **The settings are accepted exactly when no selector occurs twice and every entry meets the
statement's conditions** (method exists; if fields are listed: unary, and each listed field is a
top-level, non-required, singular string annotated UUID4; a `repeated string` counts as "not a string"
since the `fix:` commit 239cd3d — see `repeated_string_rejected`). -/
theorem accepted_iff (api : List Method) (ss : List Settings) :
    validate api ss = [] ↔ (ss.map (·.selector)).Nodup ∧ ∀ s ∈ ss, EntryOk api s := by
  -- nothing is reported under any selector: each names at most one entry, and that entry passes
  simp only [eq_nil_iff_lookup, validate_lookup, verdict_eq_none_iff, forall_and, Keyed.nodup_map_iff_filter,
    List.mem_filter, beq_iff_eq, ← classify_none_iff]
  exact and_congr_right fun _ => ⟨fun h s hs => h _ s ⟨hs, rfl⟩, fun h _ s hs => h s hs.1⟩

theorem accepted_eq_true_iff (api : List Method) (ss : List Settings) :
    accepted api ss = true ↔ (ss.map (·.selector)).Nodup ∧ ∀ s ∈ ss, EntryOk api s := by
  unfold accepted
  rw [List.isEmpty_iff, accepted_iff]

/-- **Each single violation is rejected**: an entry that breaks any one of the conditions (unknown
method; streaming method; a listed field that is missing/nested, not a string, REQUIRED, or not
annotated UUID4) makes the whole list fail, whatever the other entries are. -/
theorem each_single_violation_rejected (api : List Method) (ss : List Settings) (s : Settings)
    (hs : s ∈ ss) (hv : Violation api s) : validate api ss ≠ [] :=
  fun h => violation_not_ok hv (((accepted_iff api ss).mp h).2 s hs)

/-- the list of violations is complete: a rejected duplicate-free list contains an entry with one of them -/
theorem rejected_has_violation (api : List Method) (ss : List Settings)
    (hnd : (ss.map (·.selector)).Nodup) (h : validate api ss ≠ []) : ∃ s ∈ ss, Violation api s := by
  have : ¬ ∀ s ∈ ss, EntryOk api s := fun hall => h ((accepted_iff api ss).mpr ⟨hnd, hall⟩)
  simp only [Classical.not_forall] at this
  obtain ⟨s, hs, hbad⟩ := this
  exact ⟨s, hs, not_ok_violation hbad⟩

/-- …and it is reported under the entry's own selector with the class the code's order gives it
(when the selector occurs once). -/
theorem violation_reported (api : List Method) (ss : List Settings) (s : Settings)
    (hnd : (ss.map (·.selector)).Nodup) (hs : s ∈ ss) :
    (validate api ss).lookup s.selector = classify api s := by
  rw [validate_lookup, filter_selector_of_nodup ss s hnd hs]; rfl

/-- what is reported for the selector of an entry that violates a condition: something (its own class, or "Duplicate
selector") -/
theorem violation_named (api : List Method) (ss : List Settings) (s : Settings) (hs : s ∈ ss) (hv : Violation api s) :
    (validate api ss).lookup s.selector ≠ none := by
  rw [validate_lookup, Ne, verdict_eq_none_iff]
  exact fun h => violation_not_ok hv
    ((classify_none_iff api s).mp (h.2 s (List.mem_filter.mpr ⟨hs, beq_self_eq_true _⟩)))

/-- **Duplicate selectors are rejected**, and the duplicate is what is reported for that selector. -/
theorem duplicates_rejected (api : List Method) (ss : List Settings) (h : ¬ (ss.map (·.selector)).Nodup) :
    validate api ss ≠ [] := fun he => h ((accepted_iff api ss).mp he).1

theorem duplicate_reported (api : List Method) (ss : List Settings) (k : String)
    (h : 2 ≤ (ss.filter (fun s => s.selector == k)).length) :
    (validate api ss).lookup k = some .duplicate := by
  rw [validate_lookup]
  generalize ss.filter (·.selector == k) = l at h ⊢
  match l, h with
  | [], h | [_], h => simp at h
  | _ :: _ :: _, _ => rfl

def fId : Field := ⟨"request_id", true, false, true, false, false⟩
def fOpt : Field := ⟨"opt_id", true, false, true, true, false⟩
def fName : Field := ⟨"name", true, true, false, false, false⟩
def fTags : Field := ⟨"tags", true, false, true, false, true⟩      -- `repeated string tags = 4 [UUID4]`
def mCreate : Method := ⟨"p.S.Create", false, false, [fName, fId, fOpt, fTags]⟩
def mWatch : Method := ⟨"p.S.Watch", false, true, [fName, fId]⟩
def demoApi : List Method := [mCreate, mWatch]

example : validate demoApi [⟨"p.S.Create", ["request_id", "opt_id"]⟩, ⟨"p.S.Watch", []⟩] = [] := by decide +kernel
example : ∃ s ∈ [(⟨"p.S.Create", ["name"]⟩ : Settings)], Violation demoApi s :=
  ⟨_, List.mem_singleton.mpr rfl, .required mCreate "name" fName (by decide +kernel) List.mem_cons_self (by decide +kernel) rfl⟩
example : validate demoApi [⟨"p.S.Create", ["name", "a.b"]⟩] =
    [("p.S.Create", .fields [.isRequired "name", .notUuid4 "name", .notFound "a.b"])] := by decide +kernel
example : validate demoApi [⟨"p.S.Watch", ["request_id"]⟩, ⟨"p.S.Nope", []⟩] =
    [("p.S.Watch", .notUnary), ("p.S.Nope", .methodNotFound)] := by decide +kernel
example : validate demoApi [⟨"p.S.Create", ["name"]⟩, ⟨"p.S.Watch", []⟩, ⟨"p.S.Create", []⟩] =
    [("p.S.Create", .duplicate)] := by decide +kernel
example : ¬ (([⟨"p.S.Create", []⟩, ⟨"p.S.Create", []⟩] : List Settings).map (·.selector)).Nodup := by decide +kernel

-- hypotheses of `nested_path_not_found`, `classify_streaming`, `duplicate_reported`
example : (∀ fd ∈ mCreate.input, '.' ∉ fd.name.toList) ∧ '.' ∈ "inner.request_id".toList := by
  simp -index only [mCreate, fName, fId, fOpt, fTags, List.forall_mem_cons, String.toList_ofList]
  decide +kernel
example : getMethod demoApi "p.S.Watch" = some mWatch ∧ mWatch.serverStreaming = true := by decide +kernel
example : 2 ≤ (([⟨"p.S.Create", ["name"]⟩, ⟨"p.S.Watch", []⟩, ⟨"p.S.Create", []⟩] : List Settings).filter
    (fun s => s.selector == "p.S.Create")).length := by decide +kernel

/-- Regression for the repaired defect (`fix:` 239cd3d): a `repeated string … [format = UUID4]` field is not
a string in the sense of AIP-4235; listing it rejects the settings with "not of type string", whatever its
other attributes are. (Before the repair the label was ignored and such a field was accepted.) -/
theorem repeated_string_rejected (api : List Method) (ss : List Settings) (s : Settings) (m : Method)
    (f : String) (fd : Field) (hs : s ∈ ss) (hm : getMethod api s.selector = some m) (hf : f ∈ s.fields)
    (hfd : getField m.input f = some fd) (hr : fd.repeated = true) :
    validate api ss ≠ [] ∧ FieldErr.notString f ∈ fieldErrs m.input f :=
  ⟨each_single_violation_rejected api ss s hs (.nonString m f fd hm hf hfd (Or.inr hr)),
   ((fieldErrs_found m.input f fd hfd).1).mpr (Or.inr hr)⟩

example : fTags.repeated = true ∧ getField mCreate.input "tags" = some fTags ∧
    validate demoApi [⟨"p.S.Create", ["tags"]⟩] = [("p.S.Create", .fields [.notString "tags"])] := by decide +kernel

/-! ## Generation time: which views of the API run the validation -/

/-- `view` is a part of `api`: whatever `view.all_methods.get` finds, `api.all_methods.get` finds too (a sub-package
view holds the services of its own protos only) -/
def SubApi (view api : List Method) : Prop := ∀ sel m, getMethod view sel = some m → getMethod api sel = some m

/-- a view's own methods never accept what the whole API rejects (why validating against the view alone, as the code
did before cb5c413, was too strict but never too lax) -/
theorem view_accepts_implies_api_accepts {view api : List Method} (h : SubApi view api) (ss : List Settings)
    (hv : validate view ss = []) : validate api ss = [] := by
  rw [accepted_iff] at hv ⊢
  -- the method an entry names in the view is the method it names in the API: `EntryOk` carries over
  exact ⟨hv.1, fun s hs => let ⟨m, hm, hok⟩ := hv.2 s hs; ⟨m, h _ _ hm, hok⟩⟩

/-- `view.all_methods.get`: a view finds exactly the API's method under a selector it lists -/
theorem getMethod_viewOf (api : List Method) (sels : List String) (sel : String) :
    getMethod (viewOf api sels) sel = if sels.contains sel then getMethod api sel else none := by
  unfold getMethod viewOf
  rw [List.find?_filter]
  split
  · next hc =>
    congr 1; funext m
    by_cases h : m.selector = sel
    · rw [h, hc]; simp
    · simp [h]
  · next hc =>
    refine List.find?_eq_none.mpr fun m _ hm => hc ?_
    have := of_decide_eq_true hm
    exact eq_of_beq this.2 ▸ this.1

/-- the views the driver builds (`viewOf`: the API's methods whose selector the view lists) are parts of the API -/
theorem viewOf_subApi (api : List Method) (sels : List String) : SubApi (viewOf api sels) api := by
  intro sel m h
  rw [getMethod_viewOf] at h
  split at h
  · exact h
  · cases h

/-- as soon as one view renders a service, the outcome of the generation IS the validation against the whole API
(every view validates against `dataclasses.replace(self, subpackage_view=())`, fix cb5c413) -/
theorem generate_eq_validate (api : List Method) (views : List (List Method)) (ss : List Settings) (hne : views ≠ []) :
    generate api views ss = validate api ss := by
  induction views with
  | nil => exact absurd rfl hne
  | cons v vs ih =>
    rw [generate]
    split
    · next he =>
      cases vs with
      | nil => exact (List.isEmpty_iff.mp he).symm
      | cons w ws => exact ih (List.cons_ne_nil _ _)
    · rfl

/-- generation goes through iff no view renders a service (nothing reads the settings) or the whole API accepts the list -/
theorem generate_nil_iff (api : List Method) (views : List (List Method)) (ss : List Settings) :
    generate api views ss = [] ↔ views = [] ∨ validate api ss = [] := by
  cases views with
  | nil => simp [generate]
  | cons v vs => simp [generate_eq_validate api (v :: vs) ss (by simp)]

/-- an API without sub-packages: the one view is the API, generation = the validation (everything above applies) -/
theorem generate_single_view (api : List Method) (ss : List Settings) : generate api [api] ss = validate api ss :=
  generate_eq_validate api [api] ss (by simp)

/-- **Generation fails unless the settings are valid, wherever the services live**: as soon as one view of the API
renders a service, a list that repeats a selector or holds an entry violating the statement's conditions aborts
the generation. -/
theorem generation_rejects_invalid (api : List Method) (views : List (List Method)) (ss : List Settings)
    (hne : views ≠ []) (hbad : validate api ss ≠ []) : generate api views ss ≠ [] :=
  generate_eq_validate api views ss hne ▸ hbad

theorem generation_rejects_each_single_violation (api : List Method) (views : List (List Method)) (ss : List Settings)
    (s : Settings) (hne : views ≠ []) (hs : s ∈ ss) (hv : Violation api s) :
    generate api views ss ≠ [] :=
  generation_rejects_invalid api views ss hne (each_single_violation_rejected api ss s hs hv)

theorem generation_rejects_duplicates (api : List Method) (views : List (List Method)) (ss : List Settings)
    (hne : views ≠ []) (h : ¬ (ss.map (·.selector)).Nodup) :
    generate api views ss ≠ [] :=
  generation_rejects_invalid api views ss hne (duplicates_rejected api ss h)

/-- **…and goes through when they are**, whichever views render services (the direction that failed before cb5c413:
see `valid_settings_with_subpackage_view_accepted`) -/
theorem generation_accepts_valid (api : List Method) (views : List (List Method)) (ss : List Settings)
    (hnd : (ss.map (·.selector)).Nodup) (hok : ∀ s ∈ ss, EntryOk api s) : generate api views ss = [] :=
  (generate_nil_iff api views ss).mpr (Or.inr ((accepted_iff api ss).mpr ⟨hnd, hok⟩))

def mAux : Method := ⟨"p.sub.T.Make", false, false, [fName, fId]⟩
def subApi : List Method := [mCreate, mWatch, mAux]

/-- regression (repaired by cb5c413): a list that is valid for the API used to be rejected when a view that does not
hold the named service validated it ("Method was not found.") — services in sub-packages; it is accepted now. -/
theorem valid_settings_with_subpackage_view_accepted :
    validate subApi [⟨"p.S.Create", ["request_id"]⟩] = [] ∧
    validate (viewOf subApi ["p.sub.T.Make"]) [⟨"p.S.Create", ["request_id"]⟩] = [("p.S.Create", .methodNotFound)] ∧
    generate subApi [viewOf subApi ["p.sub.T.Make"], subApi] [⟨"p.S.Create", ["request_id"]⟩] = [] := by
  decide +kernel

example : ([viewOf subApi ["p.sub.T.Make"], subApi] : List (List Method)) ≠ [] ∧
    validate subApi [⟨"p.sub.T.Make", ["name"]⟩] ≠ [] ∧
    generate subApi [viewOf subApi ["p.sub.T.Make"]] [⟨"p.sub.T.Make", ["name"]⟩] ≠ [] := by decide +kernel
example : SubApi (viewOf subApi ["p.sub.T.Make"]) subApi := viewOf_subApi _ _
example : ∃ s ∈ [(⟨"p.sub.T.Make", ["name"]⟩ : Settings)], Violation subApi s :=
  ⟨_, List.mem_singleton.mpr rfl, .required mAux "name" fName (by decide +kernel) List.mem_cons_self (by decide +kernel) rfl⟩
example : ¬ (([⟨"p.sub.T.Make", []⟩, ⟨"p.sub.T.Make", []⟩] : List Settings).map (·.selector)).Nodup := by decide +kernel
example : (([⟨"p.S.Create", ["request_id"]⟩] : List Settings).map (·.selector)).Nodup ∧
    ∀ s ∈ ([⟨"p.S.Create", ["request_id"]⟩] : List Settings), EntryOk subApi s := by
  refine ⟨by decide +kernel, fun s hs => ?_⟩
  rw [List.mem_singleton.mp hs]
  exact (classify_none_iff _ _).mp (by decide +kernel)

/-- `generate_omitted_as_internal` (or an empty allow-list): the API keeps all its methods — settings of an omitted
(internal) method are validated and honoured like any other -/
theorem prune_internal (allow : List String) (api : List Method) : prune allow true api = api := by
  simp [prune]

theorem prune_no_allow_list (internal : Bool) (api : List Method) : prune [] internal api = api := by
  simp [prune]

theorem prune_omit {allow : List String} (hal : allow ≠ []) (api : List Method) :
    prune allow false api = viewOf api allow := by
  rw [prune, Bool.or_false, if_neg (mt List.isEmpty_iff.mp hal)]

theorem prune_subApi (allow : List String) (internal : Bool) (api : List Method) : SubApi (prune allow internal api) api := by
  unfold prune
  split
  · intro sel m h; exact h
  · exact viewOf_subApi api allow

/-- **Selective generation never waives a condition**: whatever the allow-list and the mode, a list that the declared
API rejects (repeated selector, unknown method, streaming method, bad field) aborts the generation of the pruned API. -/
theorem selective_generation_rejects_invalid (api : List Method) (allow : List String) (internal : Bool)
    (views : List (List Method)) (ss : List Settings) (hne : views ≠ []) (hbad : validate api ss ≠ []) :
    generate (prune allow internal api) views ss ≠ [] :=
  generation_rejects_invalid _ views ss hne
    (fun h => hbad (view_accepts_implies_api_accepts (prune_subApi allow internal api) ss h))

/-- in particular a selector that names no method of the declared API ("Method was not found."), on or off the allow-list -/
theorem selective_generation_rejects_unknown_selector (api : List Method) (allow : List String) (internal : Bool)
    (views : List (List Method)) (ss : List Settings) (s : Settings) (hne : views ≠ []) (hs : s ∈ ss)
    (hno : getMethod api s.selector = none) : generate (prune allow internal api) views ss ≠ [] :=
  selective_generation_rejects_invalid api allow internal views ss hne
    (each_single_violation_rejected api ss s hs (.noMethod hno))

/-- omit mode, what the code does: an entry for a declared method that is not on the (non-empty) allow-list is
reported as "Method was not found." and aborts the generation (the method is no method of the generated API) -/
theorem omitted_method_settings_rejected (api : List Method) (allow : List String) (views : List (List Method))
    (ss : List Settings) (s : Settings) (hne : views ≠ []) (hal : allow ≠ []) (hs : s ∈ ss)
    (hom : allow.contains s.selector = false) : generate (prune allow false api) views ss ≠ [] := by
  refine generation_rejects_each_single_violation _ views ss s hne hs (.noMethod ?_)
  rw [prune_omit hal, getMethod_viewOf, hom]; rfl

example : prune ["p.S.Create"] false demoApi = [mCreate] ∧ prune ["p.S.Create"] true demoApi = demoApi := by decide +kernel
example : generate (prune ["p.S.Create"] false demoApi) [prune ["p.S.Create"] false demoApi] [⟨"p.S.Createe", ["request_id"]⟩] =
    [("p.S.Createe", .methodNotFound)] ∧
    generate (prune ["p.S.Create"] true demoApi) [demoApi] [⟨"no.such.Api.Method", []⟩] = [("no.such.Api.Method", .methodNotFound)] ∧
    generate (prune ["p.S.Create"] false demoApi) [[mCreate]] [⟨"p.S.Watch", []⟩] = [("p.S.Watch", .methodNotFound)] ∧
    generate (prune ["p.S.Create"] true demoApi) [demoApi] [⟨"p.S.Watch", []⟩, ⟨"p.S.Create", ["request_id"]⟩] = [] := by decide +kernel
example : getMethod demoApi "p.S.Createe" = none ∧ (["p.S.Create"] : List String) ≠ [] ∧
    (["p.S.Create"] : List String).contains "p.S.Watch" = false := by decide +kernel

/-! ### Request messages declared in a dependency file (not among `API.messages`) -/

/-- **An invalid entry on a request message that is declared in a dependency file is rejected like any other, with a
settings error that names it** (the model's `Method.input` is the method's own request message, wherever it is declared:
`method_descriptor.input`, f83c180; a `self.messages.get(...)`/`continue` in its place would skip every per-field check) -/
theorem hidden_request_never_accepted (api : List Method) (views : List (List Method)) (ss : List Settings) (s : Settings)
    (hne : views ≠ []) (hs : s ∈ ss) (hv : Violation api s) :
    generate api views ss ≠ [] ∧ (generate api views ss).lookup s.selector ≠ none := by
  rw [generate_eq_validate api views ss hne]
  exact ⟨each_single_violation_rejected api ss s hs hv, violation_named api ss s hs hv⟩

def mShared : Method := ⟨"p.S.Share", false, false, [fName, fId]⟩

/-- regression (repaired by f83c180): a list that meets every condition used to be refused with a bare `KeyError` when
the request message (here the one of `p.S.Share`) is declared in a dependency file; it generates now, and an invalid
entry on the same request is reported as such -/
theorem valid_entry_on_hidden_request_accepted :
    (∀ s ∈ ([⟨"p.S.Share", ["request_id"]⟩] : List Settings), EntryOk [mCreate, mShared] s) ∧
    generate [mCreate, mShared] [[mCreate, mShared]] [⟨"p.S.Share", ["request_id"]⟩] = [] ∧
    generate [mCreate, mShared] [[mCreate, mShared]] [⟨"p.S.Create", ["request_id"]⟩, ⟨"p.S.Share", ["name", "inner.id"]⟩] =
      [("p.S.Share", .fields [.isRequired "name", .notUuid4 "name", .notFound "inner.id"])] := by
  have h : generate [mCreate, mShared] [[mCreate, mShared]] [⟨"p.S.Share", ["request_id"]⟩] = [] := by decide +kernel
  exact ⟨((accepted_iff _ _).mp (generate_single_view _ _ ▸ h)).2, h, by decide +kernel⟩

example : ([[mCreate, mShared]] : List (List Method)) ≠ [] ∧
    (⟨"p.S.Share", ["name"]⟩ : Settings) ∈ [(⟨"p.S.Share", ["name"]⟩ : Settings)] :=
  ⟨List.cons_ne_nil _ _, List.mem_cons_self⟩
example : Violation [mCreate, mShared] ⟨"p.S.Share", ["name"]⟩ :=
  .required mShared "name" fName (by decide +kernel) List.mem_cons_self (by decide +kernel) rfl

/-! ## Call time: the population macro -/

theorem needsId_iff (fd : Field) (r : Req) :
    needsId fd r = true ↔
      (if fd.optional then r.lookup fd.name = none else (r.lookup fd.name = none ∨ r.lookup fd.name = some "")) := by
  unfold needsId needs
  cases fd.optional <;> cases r.lookup fd.name <;> simp

theorem needsId_congr {fd : Field} {r r' : Req} (h : r'.lookup fd.name = r.lookup fd.name) : needsId fd r' = needsId fd r := by
  unfold needsId; rw [h]

theorem needsId_of_set {fd : Field} {r : Req} {v : String} (h : r.lookup fd.name = some v)
    (hset : fd.optional = true ∨ v ≠ "") : needsId fd r = false := by
  unfold needsId needs
  rw [h]
  rcases hset with h | h
  · simp [h]
  · cases fd.optional <;> simp [h]

theorem popStep_some (gen : Nat → String) {inp : List Field} (st : Req × Nat) {f : String} {fd : Field}
    (hfd : getField inp f = some fd) :
    popStep gen inp st f = if needsId fd st.1 then (Req.set st.1 f (gen st.2), st.2 + 1) else st := by
  rw [popStep, hfd]

theorem popStep_ctr_le (gen : Nat → String) (inp : List Field) (st : Req × Nat) (f : String) :
    st.2 ≤ (popStep gen inp st f).2 := by
  unfold popStep
  split
  · exact Nat.le_refl _
  · split
    · exact Nat.le_succ _
    · exact Nat.le_refl _

theorem popStep_lookup_other (gen : Nat → String) (inp : List Field) (st : Req × Nat) (g f : String) (h : f ≠ g) :
    (popStep gen inp st g).1.lookup f = st.1.lookup f := by
  unfold popStep
  split
  · rfl
  · split
    · rw [Req.set, lookup_assign, if_neg h]
    · rfl

theorem populate_nil_fields (gen : Nat → String) (inp : List Field) (st : Req × Nat) : populate gen inp [] st = st := rfl

theorem populate_cons (gen : Nat → String) (inp : List Field) (g : String) (fields : List String) (st : Req × Nat) :
    populate gen inp (g :: fields) st = populate gen inp fields (popStep gen inp st g) := rfl

theorem populate_append (gen : Nat → String) (inp : List Field) (pre post : List String) (st : Req × Nat) :
    populate gen inp (pre ++ post) st = populate gen inp post (populate gen inp pre st) := List.foldl_append

theorem populate_ctr_le (gen : Nat → String) (inp : List Field) : ∀ (fields : List String) (st : Req × Nat),
    st.2 ≤ (populate gen inp fields st).2
  | [], _ => Nat.le_refl _
  | g :: fields, st => Nat.le_trans (popStep_ctr_le gen inp st g) (populate_ctr_le gen inp fields _)

/-- a field that is not listed, or does not need an id, keeps its state through the whole loop -/
theorem populate_keeps (gen : Nat → String) (inp : List Field) (f : String) :
    ∀ (fields : List String) (st : Req × Nat),
      (f ∉ fields ∨ ∃ fd, getField inp f = some fd ∧ needsId fd st.1 = false) →
      (populate gen inp fields st).1.lookup f = st.1.lookup f := by
  intro fields
  induction fields with
  | nil => intro st _; rfl
  | cons g fields ih =>
    intro st h
    -- this step leaves `f` alone: another field, or `f` itself not in need
    have hl : (popStep gen inp st g).1.lookup f = st.1.lookup f := by
      by_cases e : g = f
      · subst e
        obtain ⟨fd, hfd, hn⟩ := h.resolve_left (by simp)
        rw [popStep_some gen st hfd, hn]; rfl
      · exact popStep_lookup_other gen inp st g f (Ne.symm e)
    rw [populate_cons, ← hl]
    refine ih _ (h.imp (fun hm hx => hm (List.mem_cons_of_mem _ hx)) fun ⟨fd, hfd, hn⟩ => ⟨fd, hfd, ?_⟩)
    rw [needsId_congr (getField_name hfd ▸ hl)]; exact hn

/-- a listed field that needs an id gets a value `gen k` with `k` drawn during this loop -/
theorem populate_sets (gen : Nat → String) (hgen : ∀ k, gen k ≠ "") (inp : List Field) (f : String) (fd : Field)
    (hfd : getField inp f = some fd) (fields : List String) (st : Req × Nat) (hmem : f ∈ fields)
    (hn : needsId fd st.1 = true) :
    ∃ k, st.2 ≤ k ∧ k < (populate gen inp fields st).2 ∧ (populate gen inp fields st).1.lookup f = some (gen k) := by
  -- up to its first occurrence the field keeps its state, there it is set, and then it stays set (`hgen`)
  obtain ⟨pre, post, rfl, hpre⟩ := List.eq_append_cons_of_mem hmem
  have h1 := populate_keeps gen inp f pre st (.inl hpre)
  have hn1 := (needsId_congr (getField_name hfd ▸ h1)).trans hn
  have hset (r : Req) (v : String) : (Req.set r f v).lookup f = some v := by rw [Req.set, lookup_assign, if_pos rfl]
  rw [populate_append, populate_cons, popStep_some gen _ hfd, if_pos hn1]
  refine ⟨_, populate_ctr_le gen inp pre st,
    Nat.lt_of_lt_of_le (Nat.lt_succ_self _) (populate_ctr_le gen inp post (_, _ + 1)), ?_⟩
  exact (populate_keeps gen inp f post _
    (.inr ⟨fd, hfd, needsId_of_set (by rw [getField_name hfd]; exact hset _ _) (.inr (hgen _))⟩)).trans (hset _ _)

theorem startObj_none (obj : Req) : startObj .none obj = [] := by simp [startObj]

theorem startObj_of_ne_none (mode : Mode) (obj : Req) (h : mode ≠ .none) : startObj mode obj = obj := by
  simp [startObj, h]

theorem pipeline_eq_syncBody (path : Path) : pipeline path = syncBody := by cases path <;> rfl

theorem call_eq (gen : Nat → String) (m : Method) (s : Option Settings) (path : Path) (mode : Mode)
    (obj : Req) (ctr : Nat) :
    call gen m s path mode obj ctr =
      (some (populate gen m.input (fieldsOf s) (startObj mode obj, ctr)).1,
       (if mode = .inst then (populate gen m.input (fieldsOf s) (startObj mode obj, ctr)).1 else obj),
       (populate gen m.input (fieldsOf s) (startObj mode obj, ctr)).2) := by
  rw [call, pipeline_eq_syncBody]; rfl

/-- **The macro runs on every call path, after the request object is complete and before it is sent**:
the sync client, the asyncio client, REST (= the sync client over the REST transport) and rest_asyncio
(= the asyncio client over the async REST transport) all hand the transport `populate(request)`.
(Structural on the model's statement lists; tied to the templates by the harness's scan of the emitted
method bodies and by T3 on all four paths.) -/
theorem macro_on_all_paths (gen : Nat → String) (m : Method) (s : Option Settings) (path : Path) (mode : Mode)
    (obj : Req) (ctr : Nat) :
    (call gen m s path mode obj ctr).1 = some (populate gen m.input (fieldsOf s) (startObj mode obj, ctr)).1 ∧
    (pipeline path).filter (fun x => x = .populate ∨ x = .send) = [.populate, .send] ∧
    pipeline .rest = pipeline .sync ∧ pipeline .restAsyncio = pipeline .asyncio :=
  ⟨by rw [call_eq], by rw [pipeline_eq_syncBody]; decide, rfl, rfl⟩

/-- the request a call sends (it always sends one) -/
def sent (gen : Nat → String) (m : Method) (s : Option Settings) (_path : Path) (mode : Mode) (obj : Req) (ctr : Nat) : Req :=
  (populate gen m.input (fieldsOf s) (startObj mode obj, ctr)).1

theorem call_sends (gen : Nat → String) (m : Method) (s : Option Settings) (path : Path) (mode : Mode)
    (obj : Req) (ctr : Nat) : (call gen m s path mode obj ctr).1 = some (sent gen m s path mode obj ctr) := by
  rw [call_eq]; rfl

/-- **Populated iff unset.** For a listed field of an accepted method: if the caller left it unset
(proto3-optional: not present; plain: not present or empty) the request that is sent carries a value
drawn from `uuid4` during this very call; otherwise it carries exactly the caller's state.
`startObj mode obj` is what the caller handed over (`obj`, or nothing at all when `mode = none`).
`hgen`: `str(uuid.uuid4())` is never the empty string. -/
theorem populate_iff_unset (gen : Nat → String) (hgen : ∀ k, gen k ≠ "") (m : Method) (s : Settings)
    (path : Path) (mode : Mode) (obj : Req) (ctr : Nat) (f : String) (fd : Field)
    (hf : f ∈ s.fields) (hfd : getField m.input f = some fd) :
    (needsId fd (startObj mode obj) = true →
        ∃ k, ctr ≤ k ∧ k < (call gen m (some s) path mode obj ctr).2.2 ∧
          (sent gen m (some s) path mode obj ctr).lookup f = some (gen k)) ∧
    (needsId fd (startObj mode obj) = false →
        (sent gen m (some s) path mode obj ctr).lookup f = (startObj mode obj).lookup f) := by
  constructor
  · intro hn
    rw [call_eq]
    exact populate_sets gen hgen m.input f fd hfd s.fields (startObj mode obj, ctr) hf hn
  · intro hn
    exact populate_keeps gen m.input f s.fields (startObj mode obj, ctr) (Or.inr ⟨fd, hfd, hn⟩)

/-- a call without a request and without keyword arguments gets an id in EVERY listed field -/
theorem none_mode_populates_all (gen : Nat → String) (hgen : ∀ k, gen k ≠ "") (m : Method) (s : Settings)
    (path : Path) (obj : Req) (ctr : Nat) (f : String) (fd : Field)
    (hf : f ∈ s.fields) (hfd : getField m.input f = some fd) :
    ∃ k, ctr ≤ k ∧ k < (call gen m (some s) path .none obj ctr).2.2 ∧
      (sent gen m (some s) path .none obj ctr).lookup f = some (gen k) := by
  refine (populate_iff_unset gen hgen m s path .none obj ctr f fd hf hfd).1 ?_
  rw [startObj_none, needsId_iff]
  split
  · rfl
  · exact .inl rfl

/-- **A caller-provided value is never altered**: a present proto3-optional field (even empty) and a
non-empty plain field reach the transport unchanged, on every path and in every calling mode. -/
theorem provided_value_kept (gen : Nat → String) (m : Method) (s : Option Settings) (path : Path) (mode : Mode)
    (obj : Req) (ctr : Nat) (f : String) (fd : Field) (v : String)
    (hfd : getField m.input f = some fd) (hv : (startObj mode obj).lookup f = some v)
    (hset : fd.optional = true ∨ v ≠ "") :
    (sent gen m s path mode obj ctr).lookup f = some v := by
  rw [← hv]
  exact populate_keeps gen m.input f _ (startObj mode obj, ctr)
    (Or.inr ⟨fd, hfd, needsId_of_set ((getField_name hfd).symm ▸ hv) hset⟩)

/-- fields that are not listed are not touched (in particular nothing at all happens without settings) -/
theorem other_fields_untouched (gen : Nat → String) (m : Method) (s : Option Settings) (path : Path) (mode : Mode)
    (obj : Req) (ctr : Nat) (f : String) (hf : f ∉ fieldsOf s) :
    (sent gen m s path mode obj ctr).lookup f = (startObj mode obj).lookup f :=
  populate_keeps gen m.input f _ (startObj mode obj, ctr) (Or.inl hf)

/-- **Fresh per call**: two calls that both populate the field, the second starting where any later
point of the uuid stream is, send different ids — provided `uuid4` itself does not repeat (`hinj`) and the
second call really has the field unset (`hn2`; see `instance_reuse_counterexample` for when it has not). -/
theorem fresh_across_calls (gen : Nat → String) (hgen : ∀ k, gen k ≠ "") (hinj : ∀ a b, gen a = gen b → a = b)
    (m : Method) (s : Settings) (p1 p2 : Path) (m1 m2 : Mode) (o1 o2 : Req) (c1 c2 : Nat)
    (f : String) (fd : Field) (hf : f ∈ s.fields) (hfd : getField m.input f = some fd)
    (hc : (call gen m (some s) p1 m1 o1 c1).2.2 ≤ c2)
    (hn1 : needsId fd (startObj m1 o1) = true) (hn2 : needsId fd (startObj m2 o2) = true) :
    (sent gen m (some s) p1 m1 o1 c1).lookup f ≠ (sent gen m (some s) p2 m2 o2 c2).lookup f := by
  obtain ⟨k1, _, hk1, e1⟩ := (populate_iff_unset gen hgen m s p1 m1 o1 c1 f fd hf hfd).1 hn1
  obtain ⟨k2, hk2, _, e2⟩ := (populate_iff_unset gen hgen m s p2 m2 o2 c2 f fd hf hfd).1 hn2
  rw [e1, e2]
  intro e
  have := hinj _ _ (Option.some.inj e)
  exact Nat.lt_irrefl k1 (Nat.lt_of_lt_of_le hk1 (Nat.le_trans hc (this ▸ hk2)))

/-- In `inst` mode the object that is populated IS the caller's object: after the call the caller's
request carries the generated id; in every other mode the caller's object/dict is left alone. -/
theorem inst_mode_mutates_caller (gen : Nat → String) (m : Method) (s : Option Settings) (path : Path)
    (obj : Req) (ctr : Nat) :
    (call gen m s path .inst obj ctr).2.1 = sent gen m s path .inst obj ctr ∧
    (call gen m s path .dict obj ctr).2.1 = obj ∧ (call gen m s path .kwargs obj ctr).2.1 = obj ∧
    (call gen m s path .none obj ctr).2.1 = obj := by
  simp [call_eq, sent]

/-- … so a second call with the same request instance finds the field set and sends the SAME id again
(general form: whatever the first call populated is kept by the second). -/
theorem instance_reuse_same_id (gen : Nat → String) (hgen : ∀ k, gen k ≠ "") (m : Method) (s : Settings)
    (p1 p2 : Path) (obj : Req) (c1 c2 : Nat) (f : String) (fd : Field)
    (hf : f ∈ s.fields) (hfd : getField m.input f = some fd) (hn : needsId fd obj = true) :
    (sent gen m (some s) p2 .inst (call gen m (some s) p1 .inst obj c1).2.1 c2).lookup f
      = (sent gen m (some s) p1 .inst obj c1).lookup f := by
  obtain ⟨k, _, _, e⟩ := (populate_iff_unset gen hgen m s p1 .inst obj c1 f fd hf hfd).1 hn
  rw [(inst_mode_mutates_caller gen m (some s) p1 obj c1).1, e]
  exact provided_value_kept gen m (some s) p2 .inst _ c2 f fd (gen k) hfd e (Or.inr (hgen k))

/-! ### Which settings a method sees, and the `import uuid` gate -/

/-- the macro looks the settings up by the method's own selector: an entry for another method is never
used (the same field name may be listed for two methods; each gets its own list) -/
theorem settingsFor_selector (ss : List Settings) (sel : String) (s : Settings)
    (h : settingsFor ss sel = some s) : s.selector = sel ∧ s ∈ ss :=
  have hm := List.mem_filter.mp (List.mem_of_getLast? h)
  ⟨eq_of_beq hm.2, hm.1⟩

/-- in an accepted list (no selector twice) every entry is the one its method sees, in whatever order the
entries were written -/
theorem settingsFor_of_nodup (ss : List Settings) (s : Settings)
    (hnd : (ss.map (·.selector)).Nodup) (hs : s ∈ ss) : settingsFor ss s.selector = some s := by
  unfold settingsFor
  rw [filter_selector_of_nodup ss s hnd hs]
  rfl

/-- a method no entry names sees no settings: nothing is populated, no uuid is drawn -/
theorem no_settings_no_population (gen : Nat → String) (ss : List Settings) (m : Method) (path : Path) (mode : Mode)
    (obj : Req) (ctr : Nat) (h : ∀ s ∈ ss, s.selector ≠ m.selector) :
    call gen m (settingsFor ss m.selector) path mode obj ctr = (some (startObj mode obj), (if mode = .inst then startObj mode obj else obj), ctr) := by
  have : settingsFor ss m.selector = none := by
    rw [settingsFor, List.filter_eq_nil_iff.mpr fun s hs => by simpa using h s hs]; rfl
  rw [this, call_eq]
  rfl

/-- **`uuid` is imported whenever the macro can evaluate `uuid.uuid4()`**: a call in a library generated
with ANY settings list never fails with `NameError` — the gate is true as soon as the list has an entry, and
a uuid is only drawn for a method that has an entry. (Round-2 seed: gate on the first entry only.) -/
theorem no_name_error (gen : Nat → String) (ss : List Settings) (m : Method) (path : Path) (mode : Mode)
    (obj : Req) (ctr : Nat) :
    callChecked gen ss m path mode obj ctr = (call gen m (settingsFor ss m.selector) path mode obj ctr).1 := by
  unfold callChecked
  cases ss with
  | nil =>
    have : settingsFor [] m.selector = none := rfl
    simp [this, call_eq, fieldsOf, populate_nil_fields]
  | cons a l => simp [importsUuid]

theorem importsUuid_iff (ss : List Settings) : importsUuid ss = true ↔ ss ≠ [] := by
  cases ss <;> simp [importsUuid]

/-- the gate does not depend on the ORDER of the entries nor on which entry lists fields -/
theorem importsUuid_of_any_fields (ss : List Settings) (h : ∃ s ∈ ss, s.fields ≠ []) : importsUuid ss = true := by
  obtain ⟨s, hs, _⟩ := h
  exact (importsUuid_iff ss).mpr (List.ne_nil_of_mem hs)

/-- every request of a paginated call carries the id of the first one (and every other field but the
page token): the follow-up requests are not new calls -/
theorem pages_keep_id (first : Req) (tokens : List String) (f : String) (hf : f ≠ "page_token") :
    ∀ r ∈ pageRequests first tokens, r.lookup f = first.lookup f := by
  intro r hr
  unfold pageRequests at hr
  rcases List.mem_cons.mp hr with e | hr
  · rw [e]
  · obtain ⟨t, _, e⟩ := List.mem_map.mp hr
    rw [← e, Req.set, lookup_assign, if_neg hf]

theorem pages_count (first : Req) (tokens : List String) : (pageRequests first tokens).length = tokens.length + 1 := by
  simp [pageRequests]

def demoGen (k : Nat) : String := "$" ++ toString k

example : needsId fId [("name", "n")] = true ∧ needsId fId [("request_id", "")] = true ∧
    needsId fId [("request_id", "mine")] = false ∧ needsId fOpt [] = true ∧ needsId fOpt [("opt_id", "")] = false := by decide +kernel
example : (call demoGen mCreate (some ⟨"p.S.Create", ["request_id", "opt_id"]⟩) .rest .dict [("name", "n")] 0).1 =
    some [("name", "n"), ("request_id", "$0"), ("opt_id", "$1")] := by decide +kernel
example : (call demoGen mCreate (some ⟨"p.S.Create", ["request_id", "opt_id"]⟩) .asyncio .kwargs
    [("request_id", "mine"), ("opt_id", "")] 5).1 = some [("request_id", "mine"), ("opt_id", "")] := by decide +kernel
example : session demoGen mCreate (some ⟨"p.S.Create", ["request_id"]⟩) .sync [(.dict, 0), (.dict, 0)] [[("name", "n")]] 0 =
    [some [("name", "n"), ("request_id", "$0")], some [("name", "n"), ("request_id", "$1")]] := by decide +kernel

/-- a uuid stream that meets `hgen` and `hinj` (the theorems' hypotheses on `uuid.uuid4` are satisfiable) -/
def uGen (k : Nat) : String := String.ofList (List.replicate (k + 1) 'u')

example : (∀ k, uGen k ≠ "") ∧ (∀ a b, uGen a = uGen b → a = b) := by
  constructor
  · intro k h
    have := congrArg String.length h
    simp [uGen] at this
  · intro a b h
    have := congrArg String.length h
    simpa [uGen] using this

-- hypotheses of `populate_iff_unset` / `fresh_across_calls` / `instance_reuse_same_id` at a concrete point
example : "request_id" ∈ (⟨"p.S.Create", ["request_id", "opt_id"]⟩ : Settings).fields ∧
    getField mCreate.input "request_id" = some fId ∧ needsId fId [("name", "n")] = true ∧
    (call uGen mCreate (some ⟨"p.S.Create", ["request_id", "opt_id"]⟩) .sync .dict [("name", "n")] 0).2.2 ≤ 2 := by decide +kernel
-- hypotheses of `provided_value_kept` (both kinds of "set") and of `other_fields_untouched`
example : getField mCreate.input "opt_id" = some fOpt ∧ List.lookup "opt_id" [("opt_id", "")] = some "" ∧ fOpt.optional = true := by decide +kernel
example : getField mCreate.input "request_id" = some fId ∧ List.lookup "request_id" [("request_id", "mine")] = some "mine" ∧ "mine" ≠ "" := by decide +kernel
example : "name" ∉ fieldsOf (some ⟨"p.S.Create", ["request_id"]⟩) := by decide +kernel
-- `none` mode, the settings lookup in either order, the import gate, pages
example : (call demoGen mCreate (some ⟨"p.S.Create", ["request_id", "opt_id"]⟩) .restAsyncio .none [("request_id", "ignored")] 3).1 =
    some [("request_id", "$3"), ("opt_id", "$4")] := by decide +kernel
example : settingsFor [⟨"p.S.Watch", []⟩, ⟨"p.S.Create", ["request_id"]⟩] "p.S.Create" = some ⟨"p.S.Create", ["request_id"]⟩ ∧
    settingsFor [⟨"p.S.Create", ["request_id"]⟩, ⟨"p.S.Watch", []⟩] "p.S.Create" = some ⟨"p.S.Create", ["request_id"]⟩ ∧
    settingsFor [⟨"p.S.Watch", []⟩] "p.S.Create" = none := by decide +kernel
example : importsUuid [⟨"p.S.Watch", []⟩, ⟨"p.S.Create", ["request_id"]⟩] = true ∧ importsUuid [] = false := by decide +kernel
example : callChecked demoGen [⟨"p.S.Watch", []⟩, ⟨"p.S.Create", ["request_id"]⟩] mCreate .sync .dict [("name", "n")] 0 =
    some [("name", "n"), ("request_id", "$0")] := by decide +kernel
example : pageRequests [("request_id", "$0")] ["t1", "t2"] =
    [[("request_id", "$0")], [("request_id", "$0"), ("page_token", "t1")], [("request_id", "$0"), ("page_token", "t2")]] := by decide +kernel
example : ∀ s ∈ ([⟨"p.S.Watch", []⟩] : List Settings), s.selector ≠ mCreate.selector := by decide +kernel

/-- The statement wants a fresh id on EVERY call in which the caller left the field unset. The caller
builds one request object, leaves `request_id` unset and calls twice: the emitted code wrote the first id
into the caller's object, so the second call sends the same id (real code: same). Known finding. -/
theorem instance_reuse_counterexample :
    session demoGen mCreate (some ⟨"p.S.Create", ["request_id"]⟩) .sync [(.inst, 0), (.inst, 0)] [[("name", "n")]] 0 =
      [some [("name", "n"), ("request_id", "$0")], some [("name", "n"), ("request_id", "$0")]] := by decide +kernel

end GapicModel.Props.C18
