import GapicModel.Model.Types
import GapicModel.Lemmas.AddressT
import GapicModel.Lemmas.Tables
import GapicModel.Lemmas.Keyed
import GapicModel.Lemmas.C10Dicts
/-
C02 — generated message and enum classes are wire-compatible with the input descriptors.

What is proved here (about the MODEL of Model/Types.lean; tied to /repo by T1 bridge lemmas for the
two word tables, T2 on Field.name / proto_type / Address.rel / __str__ / module_alias, T3 on the run-time
descriptors of every emitted class):
  * the attribute renaming is "one trailing underscore on reserved words", never a keyword, applied once,
    invertible, injective on every message protoc accepts, and invisible in JSON;
  * every declaration the message template prints is read back by proto-plus as the input field
    (number, type, label, referenced type, oneof, presence, map key/value) — `decl_roundtrip`;
  * enum values survive (as a multiset; in order when the input is sorted) — and the import FAILS for a
    negative value (`enum_negative_counterexample`, a proto-plus limitation, outside the generator);
  * `Address.rel` resolves to the referenced type under Python scoping for EVERY same-module shape
    (`rel_resolves`, no exclusion since the `fix:` commit 92701a6); the former §9-F9 inputs — a nested
    message `X.A` referring to `A.B` — are kept as regression theorems (`rel_shadowed_regression`,
    `rel_shadowed_nested_regression`);
  * schema loading: a field's oneof is the declaration its index points at whatever the number of members
    (`oneof_name_lookup`, `oneof_membership_preserved`), forward / backward / recursive references resolve alike
    (`resolution_order_irrelevant`), (sub-)packages of the API and `proto-plus-deps` packages are proto-plus
    packages imported from `…types` (`proto_plus_packages`, `python_import_target_layout`), and the
    string-prefix quirk of that test (`proto_plus_prefix_quirk`).
-/
namespace GapicModel.Props.C02
open GapicModel.Model.Types

/-- The Python attribute is the proto field name, except one trailing underscore on reserved words
    (and only in proto-plus packages). -/
theorem attr_name_rule (n : Name) :
    (n ∈ reserved → fieldAttr true n = n ++ ['_']) ∧ (n ∉ reserved → fieldAttr true n = n) ∧
    fieldAttr false n = n := by
  refine ⟨fun h => by simp [fieldAttr, h], fun h => by simp [fieldAttr, h], by simp [fieldAttr]⟩

theorem reserved_eq : reserved = Tables.reserved := Tables.reserved_eq
theorem keywords_eq : keywords = Tables.keywords := Tables.keywords_eq

/-- finite fact over the bridged table: suffixing a reserved word never lands on a reserved word -/
theorem reserved_suffix_fresh : ∀ w ∈ reserved, w ++ ['_'] ∉ reserved := by
  rw [reserved_eq]; exact fun _ => Tables.suffixed_not_reserved

/-- finite fact over the bridged tables: every Python keyword is reserved -/
theorem keywords_subset_reserved : ∀ w ∈ keywords, w ∈ reserved := by
  rw [reserved_eq, keywords_eq]; exact fun _ h => Tables.keywords_sublist_reserved.subset h

/-- the attribute is never a reserved word, whatever the field is called -/
theorem attr_not_reserved (n : Name) : fieldAttr true n ∉ reserved := by
  by_cases hn : n ∈ reserved
  · rw [(attr_name_rule n).1 hn]
    exact reserved_suffix_fresh n hn
  · rwa [(attr_name_rule n).2.1 hn]

/-- the attribute is never a Python keyword (so `name: T = proto.Field(…)` parses) -/
theorem attr_not_keyword (n : Name) : fieldAttr true n ∉ keywords :=
  fun h => attr_not_reserved n (keywords_subset_reserved _ h)

/-- exactly one underscore: the renamed attribute is not itself reserved, so renaming is idempotent -/
theorem attr_one_underscore (n : Name) : fieldAttr true (fieldAttr true n) = fieldAttr true n :=
  (attr_name_rule _).2.1 (attr_not_reserved n)

theorem jsonGo_append_underscore (up : Bool) (n : Name) : jsonGo up (n ++ ['_']) = jsonGo up n := by
  induction n generalizing up with
  | nil => simp [jsonGo]
  | cons c cs ih => simp only [List.cons_append, jsonGo, ih]

/-- protobuf's lowerCamel mapping drops a trailing underscore -/
theorem json_name_suffix_invariant (n : Name) : toJsonName (n ++ ['_']) = toJsonName n :=
  jsonGo_append_underscore false n

/-- the JSON key of a field does not see the renaming -/
theorem json_name_attr (pp : Bool) (n : Name) : toJsonName (fieldAttr pp n) = toJsonName n := by
  unfold fieldAttr
  split
  · exact json_name_suffix_invariant n
  · rfl

/-- **Attribute names are pairwise distinct in every message whose JSON names are** (protoc enforces
    the latter for proto3 files): no field is lost when `_get_fields` keys its dict by `Field.name`.
    Two names with one attribute have one JSON name (`json_name_attr`). -/
theorem attr_injective_per_message (fields : List Name) (h : (fields.map toJsonName).Nodup) :
    (fields.map (fieldAttr true)).Nodup := by
  refine Keyed.nodup_of_map toJsonName ?_
  rwa [List.map_map, List.map_congr_left (f := toJsonName ∘ fieldAttr true) fun n _ => json_name_attr true n]

/-- `attr_injective_per_message` hypothesis holds for a message with reserved and plain names -/
example : (["type".toList, "class".toList, "item_id".toList, "name".toList].map toJsonName).Nodup := by
  simp -index only [String.toList_ofList]
  decide +kernel

theorem append_underscore_ne (n : Name) : n ++ ['_'] ≠ n := by
  intro h
  have := congrArg List.length h
  simp at this

theorem getLast?_append_one (n : Name) (c : Char) : (n ++ [c]).getLast? = some c := by simp

theorem dropLast_append_one (n : Name) (c : Char) : (n ++ [c]).dropLast = n := by simp

/-- **The wire name is recovered**: JSON key unchanged for every name; the proto name is the attribute
    minus exactly one trailing underscore of a reserved stem (for names that are not themselves a
    reserved word plus `_`, which would share their JSON name with that word). -/
theorem wire_name_recovered (pp : Bool) (n : Name) :
    toJsonName (fieldAttr pp n) = toJsonName n ∧
    ((∀ w ∈ reserved, n ≠ w ++ ['_']) → unsuffix (fieldAttr true n) = n) := by
  refine ⟨json_name_attr pp n, fun hn => ?_⟩
  by_cases hr : n ∈ reserved
  · rw [(attr_name_rule n).1 hr, unsuffix, getLast?_append_one, dropLast_append_one, if_pos ⟨rfl, hr⟩]
  · rw [(attr_name_rule n).2.1 hr, unsuffix, if_neg]
    rintro ⟨hl, hd⟩
    obtain ⟨ys, rfl⟩ := List.getLast?_eq_some_iff.mp hl
    exact hn ys (dropLast_append_one ys '_' ▸ hd) rfl

/-- `wire_name_recovered` on a reserved word -/
example : fieldAttr true "import".toList = "import_".toList ∧ unsuffix "import_".toList = "import".toList ∧
    toJsonName "import_".toList = "import".toList ∧ toJsonName "item_id".toList = "itemId".toList := by
  simp -index only [String.toList_ofList]
  unfold fieldAttr unsuffix
  simp only [reserved_eq]
  decide +kernel

theorem filter_length_lt {α} (p q : α → Bool) (l : List α) (hqp : ∀ x, q x = true → p x = true)
    (a : α) (ha : a ∈ l) (hpa : p a = true) (hqa : q a = false) :
    (l.filter q).length < (l.filter p).length := by
  have e : l.filter q = (l.filter p).filter q := by
    rw [List.filter_filter]
    exact List.filter_congr fun x _ => by cases h : q x <;> simp [hqp x, h]
  rw [e]
  exact List.length_filter_lt_length_iff_exists.mpr ⟨a, List.mem_filter.mpr ⟨ha, hpa⟩, by simp [hqa]⟩

theorem disambiguate_fresh (names : List Name) (fuel : Nat) (s : Name)
    (h : (names.filter (fun x => decide (s.length ≤ x.length))).length < fuel) :
    disambiguate names fuel s ∉ names := by
  induction fuel generalizing s with
  | zero => omega
  | succ fuel ih =>
    simp only [disambiguate]
    split
    · rename_i hs
      apply ih
      -- `s` is one of the names at least as long as `s`, and none of those at least as long as `_s`
      have := filter_length_lt (fun x => decide (s.length ≤ x.length)) (fun x => decide (('_' :: s).length ≤ x.length))
        names (by intro x hx; simp at hx ⊢; omega) s hs (by simp) (by simp)
      omega
    · assumption

/-- the name bound to the proto-plus package is never one of the names the file itself declares
    (messages, enums, field attributes, colliding modules) -/
theorem proto_alias_fresh (names : List Name) : protoAlias names ∉ names :=
  disambiguate_fresh names _ _ (Nat.lt_succ_of_le (List.length_filter_le _ names))

/-- finite fact about the two tables of type constants: `proto.<NAME>` of the printed constant is the descriptor's type
    number, and the keyword argument the template prints (`proto_type.lower()`) is `message` exactly for TYPE_MESSAGE
    and `enum` exactly for TYPE_ENUM -/
theorem proto_type_table : ∀ t ∈ legalTypes, ∃ s, protoTypeName t = some s ∧ plusTypeOf s = some t ∧
    (lower s = "message".toList ↔ t = 11) ∧ (lower s = "enum".toList ↔ t = 14) := by
  unfold protoTypeName plusTypeOf descriptorTypeNames plusProtoType
  simp -index only [String.toList_ofList]
  decide +kernel

/-- what protoc guarantees about one field, as the template sees it -/
structure WF (f : FieldView) : Prop where
  legal : f.type ∈ legalTypes
  target_iff : f.target.isSome = true ↔ (f.type = 11 ∨ f.type = 14)
  entry_legal : ∀ e, f.entry = some e → e.keyType ∈ legalTypes ∧ e.valueType ∈ legalTypes ∧
      (e.valueTarget.isSome = true ↔ (e.valueType = 11 ∨ e.valueType = 14))

/-- the references of `f` resolve to their targets when the module is imported
    (discharged by `rel_resolves` for same-module targets; T3 for the others) -/
def Resolves (version : Name) (ctx : Addr) (res : Ref → Option (List Name)) (tgt : Option Target) : Prop :=
  ∀ x, tgt = some x → ∃ r, rel version x.addr ctx = some r ∧ res r = some x.addr.full

theorem kw_roundtrip (version : Name) (ctx : Addr) (res : Ref → Option (List Name)) (t : Nat) (pt : Name)
    (hk : (lower pt = "message".toList ↔ t = 11) ∧ (lower pt = "enum".toList ↔ t = 14)) (tgt : Option Target)
    (hiff : tgt.isSome = true ↔ (t = 11 ∨ t = 14)) (hres : Resolves version ctx res tgt) :
    ∃ kw, kwOf version ctx pt tgt = some kw ∧ readKw res kw = some (tgt.map (·.addr.full)) := by
  cases tgt with
  | none => exact ⟨none, rfl, rfl⟩
  | some x =>
    obtain ⟨r, hr, hrr⟩ := hres x rfl
    have hkey : lower pt = "message".toList ∨ lower pt = "enum".toList := (hiff.mp rfl).imp hk.1.mpr hk.2.mpr
    exact ⟨some ⟨lower pt, r⟩, by simp [kwOf, hr], by simp only [readKw, hkey, if_true, hrr, Option.map_some]⟩

/-- **Declaration round trip.** For every field kind (scalar, message, enum, repeated, map over any key
    type, oneof member, proto3 optional), what the template prints is read back by proto-plus as the
    input field: same number, type, label, referenced type, oneof name, presence flag, map key/value
    types — with the attribute as the run-time name. -/
theorem decl_roundtrip (version : Name) (ctx : Addr) (res : Ref → Option (List Name)) (parentFull : List Name)
    (f : FieldView) (wf : WF f)
    (hres : if f.isMap = true then ∀ e, f.entry = some e → Resolves version ctx res e.valueTarget
            else Resolves version ctx res f.target) :
    ∃ d, emitDecl version ctx f = some d ∧ reconstruct res parentFull d = some (expected parentFull f) := by
  unfold emitDecl expected
  by_cases hm : f.isMap = true
  · rw [if_pos hm] at hres
    simp only [if_pos hm]
    cases he : f.entry with
    | none => simp [FieldView.isMap, he] at hm
    | some e =>
      obtain ⟨hk, hv, hvt⟩ := wf.entry_legal e he
      obtain ⟨ks, hks, hks', _⟩ := proto_type_table _ hk
      obtain ⟨vs, hvs, hvs', hvk⟩ := proto_type_table _ hv
      obtain ⟨kw, hkw, hkw'⟩ := kw_roundtrip version ctx res _ vs hvk e.valueTarget hvt (hres e he)
      refine ⟨.map (fieldAttr f.protoPlus f.pbName) ks vs f.number kw, ?_, ?_⟩
      · simp only [hks, hvs, hkw, bind, Option.bind_some, pure]
      · simp only [reconstruct, hks', hvs', hkw', bind, Option.bind_some, pure]
  · rw [if_neg hm] at hres
    simp only [if_neg hm]
    obtain ⟨pt, hpt, hpt', hk⟩ := proto_type_table _ wf.legal
    obtain ⟨kw, hkw, hkw'⟩ := kw_roundtrip version ctx res _ pt hk f.target wf.target_iff hres
    refine ⟨_, by simp only [hpt, hkw, bind, Option.bind_some, pure]; rfl, ?_⟩
    simp only [reconstruct, hpt', hkw', bind, Option.bind_some, pure]
    cases f.proto3Optional <;> rfl

/-- `WF` and the resolution hypothesis of `decl_roundtrip` are met by a map<sint64, A.B> field named
    `type` inside top-level message `A` -/
example :
    let pkg := ["acme".toList]
    let b : Addr := ⟨pkg, "lib".toList, ["A".toList], "B".toList, true, false⟩
    let a : Addr := ⟨pkg, "lib".toList, [], "A".toList, true, false⟩
    let entry : Addr := ⟨pkg, "lib".toList, ["A".toList], "TypeEntry".toList, true, false⟩
    let f : FieldView := ⟨"type".toList, 4, 11, true, false, none, some ⟨false, entry⟩,
                          some ⟨18, 11, some ⟨false, b⟩⟩, true⟩
    let m : Module := ⟨pkg, [["A".toList], ["A".toList, "B".toList]], ["A".toList]⟩
    let res := fun r => (resolveRef m ⟨["A".toList], [], []⟩ r).toOption
    f.isMap = true ∧
    emitDecl [] a f = some (.map "type_".toList "SINT64".toList "MESSAGE".toList 4
      (some ⟨"message".toList, .bare ["B".toList]⟩)) ∧
    reconstruct res a.full (.map "type_".toList "SINT64".toList "MESSAGE".toList 4
      (some ⟨"message".toList, .bare ["B".toList]⟩)) = some (expected a.full f) := by
  simp -index only [String.toList_ofList]
  unfold emitDecl expected fieldAttr
  simp only [reserved_eq]
  decide +kernel

theorem emitDecl_shape (version : Name) (ctx : Addr) (f : FieldView) (d : Decl)
    (h : emitDecl version ctx f = some d) :
    (f.isMap = true ∧ ∃ kt vt kw, d = .map (fieldAttr f.protoPlus f.pbName) kt vt f.number kw) ∨
    (f.isMap = false ∧ ∃ pt kw, d = .field f.repeated (fieldAttr f.protoPlus f.pbName) pt f.number
        f.proto3Optional (if f.proto3Optional then none else truthy f.oneof) kw) := by
  unfold emitDecl at h
  split at h
  · rename_i hm
    split at h
    · cases h
    · simp only [bind, Option.bind_eq_some_iff, pure, Option.some.injEq] at h
      obtain ⟨kt, _, vt, _, kw, _, rfl⟩ := h
      exact .inl ⟨hm, kt, vt, kw, rfl⟩
  · rename_i hm
    simp only [bind, Option.bind_eq_some_iff, pure, Option.some.injEq] at h
    obtain ⟨pt, _, kw, _, rfl⟩ := h
    exact .inr ⟨by simpa using hm, pt, kw, rfl⟩

/-- the field number is printed verbatim (binary wire compatibility rests on it) -/
theorem number_unchanged (version : Name) (ctx : Addr) (f : FieldView) (d : Decl)
    (h : emitDecl version ctx f = some d) : d.number = f.number := by
  rcases emitDecl_shape version ctx f d h with ⟨_, kt, vt, kw, rfl⟩ | ⟨_, pt, kw, rfl⟩ <;> rfl

/-- oneof membership: a real-oneof member keeps its oneof's name; a proto3-optional field gets
    `optional=True` (its synthetic oneof is re-derived by proto-plus) and no `oneof=` -/
theorem oneof_membership (version : Name) (ctx : Addr) (f : FieldView) (d : Decl)
    (hm : f.isMap = false) (h : emitDecl version ctx f = some d) :
    ∃ rep attr pt n kw, d = .field rep attr pt n f.proto3Optional
      (if f.proto3Optional then none else truthy f.oneof) kw := by
  rcases emitDecl_shape version ctx f d h with ⟨hm', _⟩ | ⟨_, pt, kw, rfl⟩
  · rw [hm] at hm'; cases hm'
  · exact ⟨_, _, _, _, _, rfl⟩

/-! ## Schema loading: oneof membership, late resolution, proto-plus packages -/

/-- **A field's oneof is the declaration its index points at — whatever the number of members of that
    oneof** (a real oneof with a single member is still a oneof; a proto3-optional field gets its
    synthetic oneof the same way). -/
theorem oneof_name_lookup (decls : List Name) (i : Nat) (h : i < decls.length) :
    oneofName decls (some i) = some decls[i] := by
  cases decls with
  | nil => simp at h
  | cons d ds => simp [oneofName]

theorem oneof_name_none (decls : List Name) : oneofName decls none = none := by
  cases decls <;> rfl

/-- **Oneof membership is preserved**: two fields get the same `Field.oneof` exactly when the descriptor
    puts them in the same oneof (protoc guarantees distinct oneof names per message). -/
theorem oneof_membership_preserved (decls : List Name) (hnd : decls.Nodup) (i j : Nat)
    (hi : i < decls.length) (hj : j < decls.length) :
    oneofName decls (some i) = oneofName decls (some j) ↔ i = j := by
  rw [oneof_name_lookup decls i hi, oneof_name_lookup decls j hj, Option.some.injEq]
  exact List.getElem_inj hnd

example : oneofName [['p','i','c','k'], ['_','o','p','t']] (some 0) = some ['p','i','c','k'] ∧
    oneofName [['p','i','c','k'], ['_','o','p','t']] (some 1) = some ['_','o','p','t'] ∧
    oneofName [] (some 0) = none := by decide +kernel

/-- **Forward, backward and recursive references resolve alike**: what a field's type name resolves to does
    not depend on how much of the file was loaded when the field was wrapped (the orphan-field pass picks up
    the rest), as long as full names are unique — which protoc guarantees. -/
theorem resolution_order_irrelevant (loaded fileAll all : Known) (tn : List Name)
    (hl : ∀ r, lookupKnown loaded tn = some r → lookupKnown all tn = some r)
    (hf : ∀ r, lookupKnown fileAll tn = some r → lookupKnown all tn = some r)
    (hcover : ∀ r, lookupKnown all tn = some r → lookupKnown loaded tn = some r ∨ lookupKnown fileAll tn = some r) :
    resolveField loaded fileAll tn = lookupKnown all tn := by
  unfold resolveField
  cases h1 : lookupKnown loaded tn with
  | some r => exact (hl r h1).symm
  | none => exact Option.ext fun r => ⟨hf r, fun h => (hcover r h).resolve_left (by simp [h1])⟩

/-- hypotheses of `resolution_order_irrelevant` at a forward reference: nothing loaded yet, the orphan
    pass finds the message declared later in the file -/
example :
    let all : Known := [([['p'], ['A']], false), ([['p'], ['B']], false), ([['p'], ['K']], true)]
    resolveField [] all [['p'], ['B']] = some ([['p'], ['B']], false) ∧
    resolveField [([['p'], ['K']], true)] all [['p'], ['K']] = lookupKnown all [['p'], ['K']] := by decide +kernel

theorem joinDots_prefix (a b : List Name) : joinDots a <+: joinDots (a ++ b) := by
  induction a with
  | nil => simp [joinDots]
  | cons x r ih =>
    cases r with
    | nil => cases b <;> simp [joinDots]
    | cons y r' =>
      exact List.prefix_append_right_inj x |>.mpr (List.cons_prefix_cons.mpr ⟨rfl, ih⟩)

/-- every (sub-)package of the API's own package and every package listed in `proto-plus-deps` is a
    proto-plus package: its fields get the reserved-word suffix and its types are imported from `…types` -/
theorem proto_plus_packages (apiSegs sub : List Name) (deps : List Name) (pkg : List Name) :
    isProtoPlus (joinDots apiSegs) deps (apiSegs ++ sub) = true ∧
    (joinDots pkg ∈ deps → isProtoPlus (joinDots apiSegs) deps pkg = true) := by
  constructor
  · simp [isProtoPlus, List.isPrefixOf_iff_prefix, joinDots_prefix]
  · intro h; simp [isProtoPlus, h]

/-- the test is a STRING prefix test: a dependency package `acme.lib.v1beta` counts as part of the API
    `acme.lib.v1` (observation about the code; such a dependency is an excluded point of the check) -/
theorem proto_plus_prefix_quirk :
    isProtoPlus ['a','.','v','1'] [] [['a'], ['v','1','b']] = true ∧
    isProtoPlus ['a','.','v','1'] [] [['a'], ['v','2']] = false := by decide +kernel

/-- **A type of the API's own (sub-)package is imported from where the types template is written**:
    `<namespace>/<name>_<version>/<sub…>/types` -/
theorem python_import_target_layout (apiSegs apiRoot sub : List Name) (deps : List Name) (a : Addr)
    (h : a.package = apiSegs ++ sub) :
    pythonImportPackage (joinDots apiSegs) apiSegs apiRoot deps a = apiRoot ++ sub ++ ["types".toList] := by
  simp [pythonImportPackage, h, List.isPrefixOf_iff_prefix, joinDots_prefix]

/-- a proto-plus dependency `acme.dep.v1` is imported from `acme.dep_v1.types`, a *_pb2 dependency from its
    own package -/
example :
    let dep : Addr := ⟨[['a'], ['d'], ['v','1']], ['m'], [], ['T'], true, false⟩
    let wkt : Addr := ⟨[['g'], ['p']], ['t'], [], ['T'], false, false⟩
    pythonImportPackage ['a','.','l','.','v','1'] [['a'], ['l'], ['v','1']] [['a'], ['l','_','v','1']] [['a','.','d','.','v','1']] dep
      = [['a'], ['d','_','v','1'], ['t','y','p','e','s']] ∧
    pythonImportPackage ['a','.','l','.','v','1'] [['a'], ['l'], ['v','1']] [['a'], ['l','_','v','1']] [['a','.','d','.','v','1']] wkt
      = [['g'], ['p']] := by decide +kernel

/-- the insertion step of proto-plus's sort is `List.merge` with a singleton -/
theorem insertByNumber_eq (x : Name × Int) (l : List (Name × Int)) :
    insertByNumber x l = List.merge [x] l fun a b => a.2 ≤ b.2 := by
  induction l with
  | nil => exact (List.merge_right [x]).symm
  | cons y ys ih => simp only [insertByNumber, List.cons_merge_cons, List.nil_merge, ih, decide_eq_true_eq]

theorem sortByNumber_perm (l : List (Name × Int)) : (sortByNumber l).Perm l := by
  induction l with
  | nil => exact List.Perm.refl _
  | cons x xs ih => rw [sortByNumber, insertByNumber_eq]; exact (List.merge_perm_append _).trans (ih.cons x)

def Sorted (l : List (Name × Int)) : Prop := l.Pairwise (fun a b => a.2 ≤ b.2)

theorem sortByNumber_sorted (l : List (Name × Int)) : Sorted (sortByNumber l) := by
  induction l with
  | nil => exact .nil
  | cons x xs ih =>
    rw [sortByNumber, insertByNumber_eq]
    exact (List.pairwise_merge (fun a b c => by simpa using @Int.le_trans a.2 b.2 c.2) (fun a b => by simpa using Int.le_total a.2 b.2)
      [x] _ (List.pairwise_singleton ..) (ih.imp decide_eq_true)).imp of_decide_eq_true

theorem sortByNumber_of_sorted (l : List (Name × Int)) (h : Sorted l) : sortByNumber l = l := by
  induction l with
  | nil => rfl
  | cons x xs ih =>
    have hx := List.pairwise_cons.mp h
    rw [sortByNumber, ih hx.2, insertByNumber_eq]
    exact List.merge_of_le fun a b ha hb => decide_eq_true (List.mem_singleton.mp ha ▸ hx.1 b hb)

/-- **Enum values are preserved** as a multiset of (name, number) — proto-plus sorts them by number —
    for every proto3 enum without negative numbers. -/
theorem enum_values_preserved (e : EnumSpec) (hz : ∃ n, (n, (0 : Int)) ∈ e.values)
    (hnn : ∀ v ∈ e.values, 0 ≤ v.2) :
    ∃ e', reconstructEnum (emitEnum e) = some e' ∧ e'.name = e.name ∧ e'.values.Perm e.values := by
  unfold reconstructEnum emitEnum
  obtain ⟨zn, hzn⟩ := hz
  have hp := sortByNumber_perm e.values
  have hs := sortByNumber_sorted e.values
  generalize sortByNumber e.values = l at hp hs
  match l, hp, hs with
  | [], hp, _ => exact absurd (hp.mem_iff.mpr hzn) List.not_mem_nil
  | (n, v) :: r, hp, hs =>
    -- the first value is 0: it is below the zero value, and no value is negative
    have h0 : 0 ≤ v := hnn _ (hp.mem_iff.mp List.mem_cons_self)
    have hle : v ≤ 0 := by
      rcases List.mem_cons.mp (hp.mem_iff.mpr hzn) with h | h
      · exact Int.le_of_eq (congrArg Prod.snd h).symm
      · exact (List.pairwise_cons.mp hs).1 _ h
    obtain rfl : v = 0 := by omega
    exact ⟨⟨e.name, (n, 0) :: r⟩, by simp, rfl, hp⟩

/-- `enum_values_preserved` hypotheses hold for an unsorted enum with an alias -/
example : reconstructEnum (emitEnum ⟨"K".toList, [("Z".toList, 0), ("B".toList, 2), ("A".toList, 1), ("A2".toList, 1)]⟩) =
    some ⟨"K".toList, [("Z".toList, 0), ("A".toList, 1), ("A2".toList, 1), ("B".toList, 2)]⟩ := by
  simp -index only [String.toList_ofList]
  decide +kernel

/-- when the input lists its values in ascending order (the usual case) the emitted enum is the input -/
theorem enum_sorted_identity (e : EnumSpec) (n : Name) (r : List (Name × Int)) (hv : e.values = (n, 0) :: r)
    (hs : Sorted e.values) : reconstructEnum (emitEnum e) = some e := by
  obtain ⟨nm, vs⟩ := e
  subst hv
  simp [reconstructEnum, emitEnum, sortByNumber_of_sorted _ hs]

/-- a protoc-valid proto3 enum with a negative number does NOT import: proto-plus sorts the values
    by number and protobuf requires the first value of an open enum to be zero. (Limitation of the
    run-time library; the generator prints the values faithfully. Excluded from the generator.) -/
theorem enum_negative_counterexample :
    reconstructEnum (emitEnum ⟨"Kind".toList, [("KIND_UNSPECIFIED".toList, 0), ("KIND_NEG".toList, -3)]⟩) = none := by
  simp -index only [String.toList_ofList]
  decide +kernel

/-- the manifest lists exactly the top-level classes of the module (nested ones are reached through
    their parents), provided `es`/`ms` are the module's top-level enums/messages -/
theorem manifest_exact (m : Module) (es ms : List Name)
    (htop : ∀ n, [n] ∈ m.types ↔ n ∈ es ∨ n ∈ ms) (n : Name) :
    n ∈ manifest es ms ↔ [n] ∈ m.types := by
  simp [manifest, htop]

/-! ## Module header: type identity in sub-packages -/

/-- the types of a module are registered in the proto package of THEIR file, whatever the API's package is
    (a file of a sub-package keeps its own package; it is not folded into the API's root package) -/
theorem module_header_package (apiPkg filePkg : List Name) : (moduleHeader apiPkg filePkg).package = filePkg := rfl

/-- every types module of a library, root package or sub-package, uses one marshal: the API package's -/
theorem module_marshal_shared (apiPkg filePkg : List Name) : (moduleHeader apiPkg filePkg).marshalName = apiPkg := by
  by_cases h : apiPkg = filePkg <;> simp [moduleHeader, ModuleHeader.marshalName, h]

/-- `marshal=` is printed exactly for files of a package other than the API's -/
theorem module_marshal_printed_iff (apiPkg filePkg : List Name) :
    (moduleHeader apiPkg filePkg).marshal.isSome ↔ apiPkg ≠ filePkg := by
  by_cases h : apiPkg = filePkg <;> simp [moduleHeader, h]

/-- type identity: a quoted reference printed in a module whose header is `moduleHeader apiPkg filePkg` is read by
    proto-plus as `<file package>.<path>` — the full name the input descriptor gives the type (`Addr.full`) -/
theorem module_types_full_name (apiPkg filePkg : List Name) (m : Module)
    (hm : m.package = (moduleHeader apiPkg filePkg).package) (a : Addr) (ha : a.package = filePkg)
    (hin : a.parent ++ [a.name] ∈ m.types) :
    plusResolve m (a.parent ++ [a.name]) = .type a.full := by
  simp [plusResolve, hin, hm, moduleHeader, Addr.full, ha]

example : moduleHeader ["acme".toList, "v1".toList] ["acme".toList, "v1".toList, "catalog".toList] =
    ⟨["acme".toList, "v1".toList, "catalog".toList], some ["acme".toList, "v1".toList]⟩ ∧
    moduleHeader ["acme".toList, "v1".toList] ["acme".toList, "v1".toList] = ⟨["acme".toList, "v1".toList], none⟩ := by
  simp -index only [String.toList_ofList]
  decide +kernel

/-! ## Class body: a field named like a helper member keeps its declaration

The namespace a class body fills is the `OMap` of Model/Determinism.lean (Python's `dict`, keyed by character lists) and the dict of
a whole body its `ofPairs`: what a name ends up bound to is read off Lemmas/C10Dicts.lean. -/

theorem bindName_eq (d : ClassDict) (kv : Name × Member) : bindName d kv = Model.Determinism.OMap.set d kv.1 kv.2 := by
  induction d with
  | nil => rfl
  | cons p d ih => exact congrArg (fun r => if p.1 = kv.1 then (p.1, kv.2) :: d else p :: r) ih

theorem lookupMember_eq (d : ClassDict) (n : Name) : lookupMember d n = Model.Determinism.OMap.get? d n := by
  induction d with
  | nil => rfl
  | cons p d ih =>
    unfold Model.Determinism.OMap.get? at ih ⊢
    rw [List.find?_cons, lookupMember, ih]
    by_cases h : p.1 = n <;> simp [h]

theorem classDict_eq (nested attrs : List Name) (hasStatus : Bool) :
    classDict nested attrs hasStatus = Model.Determinism.OMap.ofPairs (classBody nested attrs hasStatus) := by
  simp only [classDict, Model.Determinism.OMap.ofPairs, Model.Determinism.OMap.update, ← bindName_eq]

/-- the last binding of a name wins -/
theorem lookup_ofPairs_last (xs ys : List (Name × Member)) (n : Name) (v : Member) (h : ∀ kv ∈ ys, kv.1 ≠ n) :
    Model.Determinism.OMap.get? (Model.Determinism.OMap.ofPairs (xs ++ (n, v) :: ys)) n = some v := by
  rw [Lemmas.C10Dicts.get_ofPairs, List.reverse_append, List.reverse_cons, List.append_assoc, List.find?_append,
    List.find?_eq_none.mpr fun kv hkv e => h kv (List.mem_reverse.mp hkv) (of_decide_eq_true e), Option.none_or,
    List.singleton_append, List.find?_cons, decide_eq_true rfl]
  rfl

theorem fieldBindings_keys (k : Nat) (as : List Name) : ∀ kv ∈ fieldBindings k as, kv.1 ∈ as := by
  induction as generalizing k with
  | nil => simp [fieldBindings]
  | cons a r ih =>
    intro kv hkv
    rcases List.mem_cons.mp hkv with rfl | h
    · exact List.mem_cons_self
    · exact List.mem_cons_of_mem _ (ih (k + 1) kv h)

theorem fieldBindings_append (k : Nat) (l r : List Name) :
    fieldBindings k (l ++ r) = fieldBindings k l ++ fieldBindings (k + l.length) r := by
  induction l generalizing k with
  | nil => rfl
  | cons a l ih => simp [fieldBindings, ih, Nat.add_assoc, Nat.add_comm 1]

/-- "the last binding of a name wins": in the class body the message template prints, the name of the i-th
    field's attribute ends up bound to that field's declaration, WHATEVER the field is called — also when a
    nested class or either helper property (`raw_page`, `done`; both printed BEFORE the fields) uses the name. -/
theorem field_kept (nested attrs : List Name) (hasStatus : Bool) (a : Name) (i : Nat)
    (hnd : attrs.Nodup) (hi : attrs[i]? = some a) :
    lookupMember (classDict nested attrs hasStatus) a = some (.field i) := by
  obtain ⟨hlt, ha⟩ := List.getElem?_eq_some_iff.mp hi
  have hlen : (attrs.take i).length = i := by rw [List.length_take, Nat.min_eq_left (Nat.le_of_lt hlt)]
  have hsplit : attrs = attrs.take i ++ a :: attrs.drop (i + 1) := by
    rw [← ha, ← List.drop_eq_getElem_cons, List.take_append_drop]
  generalize attrs.take i = l, attrs.drop (i + 1) = r at hlen hsplit
  subst hsplit hlen
  have hlater : a ∉ r := (List.nodup_cons.mp (List.nodup_append.mp hnd).2.1).1
  -- the body is `… ++ (a, .field |l|) :: bindings of r`, and no field of `r` is called `a`
  rw [lookupMember_eq, classDict_eq, classBody, fieldBindings_append, fieldBindings, ← List.append_assoc,
    lookup_ofPairs_last _ _ _ _ fun kv hkv (e : kv.1 = a) => hlater (e ▸ fieldBindings_keys _ _ kv hkv), Nat.zero_add]

/-- a field called `raw_page` of a paginated message (one that also has `next_page_token`, so that the pager
    helper property of the same name is printed) keeps its declaration -/
theorem raw_page_field_kept (nested attrs : List Name) (hasStatus : Bool) (i : Nat)
    (hnd : attrs.Nodup) (hi : attrs[i]? = some "raw_page".toList) :
    lookupMember (classDict nested attrs hasStatus) "raw_page".toList = some (.field i) :=
  field_kept nested attrs hasStatus _ i hnd hi

/-- a field called `done` of an extended-operation status message (the `done` helper property is printed) keeps
    its declaration (violated before 4ad018c: the helper was printed after the fields) -/
theorem done_field_kept_general (nested attrs : List Name) (i : Nat)
    (hnd : attrs.Nodup) (hi : attrs[i]? = some "done".toList) :
    lookupMember (classDict nested attrs true) "done".toList = some (.field i) :=
  field_kept nested attrs true _ i hnd hi

/-- a kept declaration is among the fields proto-plus's metaclass finds -/
theorem kept_field_seen (d : ClassDict) (a : Name) (i : Nat) (h : lookupMember d a = some (.field i)) :
    i ∈ fieldsSeen d := by
  obtain ⟨q, hq, e⟩ := Option.map_eq_some_iff.mp (lookupMember_eq d a ▸ h)
  exact List.mem_filterMap.mpr ⟨q, List.mem_of_find?_eq_some hq, by rw [e]⟩

/-- regression (the input of the former finding descriptor:missing-field:done-property, repaired by 4ad018c): a
    message with an extended-operation status field and a field called `done` — the declaration stays, proto-plus
    sees both fields; the name `done` keeps the position of its first binding (the helper), i.e. comes first -/
theorem done_field_kept :
    lookupMember (classDict [] ["status".toList, "done".toList] true) "done".toList = some (.field 1) ∧
    fieldsSeen (classDict [] ["status".toList, "done".toList] true) = [1, 0] := by
  simp -index only [String.toList_ofList]
  decide +kernel

example : lookupMember (classDict ["Inner".toList] ["next_page_token".toList, "items".toList, "raw_page".toList] false)
    "raw_page".toList = some (.field 2) ∧
    fieldsSeen (classDict ["Inner".toList] ["next_page_token".toList, "items".toList, "raw_page".toList] false) = [2, 0, 1] := by
  simp -index only [String.toList_ofList]
  decide +kernel

/-! ## References under Python scoping -/

/-- every non-empty proper prefix of an emitted class path is an emitted class -/
def PrefixClosed (types : List (List Name)) : Prop :=
  ∀ p q, p ++ q ∈ types → p ≠ [] → p ∈ types

/-- attribute access along a path into an emitted class -/
theorem descend_of_prefixClosed {types : List (List Name)} (hpc : PrefixClosed types) :
    ∀ (r p : List Name), p ≠ [] → p ++ r ∈ types → descend types p r = some (p ++ r)
  | [], p, _, _ => by simp [descend]
  | s :: r, p, _, h => by
    have h' : (p ++ [s]) ++ r ∈ types := by simpa using h
    rw [descend, if_pos (hpc _ _ h' (by simp)), descend_of_prefixClosed hpc r _ (by simp) h']
    simp

/-- a path to a class nested in the class whose body is executing evaluates to that class -/
theorem pyEval_nested {m : Module} (hpc : PrefixClosed m.types) (sc : Scope) (s : Name) (r : List Name)
    (h : sc.ctx ++ s :: r ∈ m.types) : pyEval m sc (s :: r) = .type (m.package ++ (sc.ctx ++ s :: r)) := by
  have h' : (sc.ctx ++ [s]) ++ r ∈ m.types := by simpa using h
  rw [pyEval, if_pos (hpc _ _ h' (by simp)), descend_of_prefixClosed hpc r _ (by simp) h']
  simp

/-- the three same-module rules of `rel` as one: the reference is bare exactly when it is to a type nested in the top-level
    message being written, and quoted otherwise -/
theorem rel_same_module (version : Name) (self ctx : Addr) (h : self.package = ctx.package ∧ self.module = ctx.module) :
    rel version self ctx = some (if self.parent ≠ [] ∧ ctx.parent = [] ∧ self.parent.head? = some ctx.name
      then .bare (self.parent.tail ++ [self.name]) else .quoted (self.parent ++ [self.name])) := by
  rw [rel, if_pos h]
  by_cases h2 : self.parent ≠ [] ∧ ctx.parent = [] ∧ self.parent.head? = some ctx.name
  · rw [if_neg fun h1 => h1.2.1 h2.2.1, if_pos h2, if_pos h2]
  · rw [if_neg h2, if_neg h2, ite_self]

/-- **Same-module references resolve to the referenced type** — whatever the nesting, forward or
    backward, self- or mutually recursive, shadowed names included. -/
theorem rel_resolves (version : Name) (m : Module) (sc : Scope) (self ctx : Addr)
    (hpc : PrefixClosed m.types)
    (hsame : self.package = ctx.package ∧ self.module = ctx.module)
    (hpkg : m.package = self.package)
    (hctx : sc.ctx = ctx.parent ++ [ctx.name])
    (ht : self.parent ++ [self.name] ∈ m.types) :
    (rel version self ctx).map (resolveRef m sc) = some (.type self.full) := by
  rw [rel_same_module version self ctx hsame, Option.map_some]
  split
  · -- bare: `ctx` is top-level and `self` is `ctx.name.s.r…`; the body of `ctx` evaluates `s.r…` as a nested path
    rename_i h2
    obtain ⟨hp, hcp, hhead⟩ := h2
    obtain ⟨s0, tp, hsp⟩ := List.exists_cons_of_ne_nil hp
    rw [hsp, List.head?_cons, Option.some.injEq] at hhead
    obtain ⟨s, r, hr⟩ := List.exists_cons_of_ne_nil (l := tp ++ [self.name]) (by simp)
    have ht' : sc.ctx ++ s :: r ∈ m.types := by rw [hctx, hcp, ← hr, ← hhead]; simpa [hsp] using ht
    rw [hsp, List.tail_cons, hr, resolveRef, pyEval_nested hpc sc s r ht', hctx, hcp, ← hr, ← hhead]
    simp [Addr.full, hpkg, hsp]
  · simp [resolveRef, plusResolve, ht, Addr.full, hpkg]

/-- hypotheses of `rel_resolves` hold for a forward reference from `A.B` to its sibling `A.C.D` -/
example :
    let pkg := ["acme".toList]
    let m : Module := ⟨pkg, [["A".toList], ["A".toList, "B".toList], ["A".toList, "C".toList],
                             ["A".toList, "C".toList, "D".toList]], ["A".toList]⟩
    let tgt : Addr := ⟨pkg, "lib".toList, ["A".toList, "C".toList], "D".toList, true, false⟩
    let ctx : Addr := ⟨pkg, "lib".toList, ["A".toList], "B".toList, true, false⟩
    (rel [] tgt ctx).map (resolveRef m ⟨["A".toList, "B".toList], [], []⟩) = some (.type tgt.full) := by
  simp -index only [String.toList_ofList]
  decide +kernel

/-- **References into another file of the package or into a dependency package resolve to the referenced
    type**: the template prints `<import name>.<Parent…>.<Name>`, the import name being the module, its alias
    or `<module>_pb2` — provided that name is bound by an import of the module and is not shadowed inside the
    class body (the generator's collision set covers every message, enum and field name of the file; the
    excluded point "a field called `<module>_pb2`" is run on the real code by the check). -/
theorem rel_cross_module_resolves (version : Name) (m : Module) (sc : Scope) (self ctx : Addr)
    (hdiff : ¬ (self.package = ctx.package ∧ self.module = ctx.module))
    (hmod : self.module ≠ [])
    (iname : Name) (hi : importName version self = some iname)
    (himp : lookupImport sc.imports iname = some self.package)
    (hloc : sc.ctx ++ [iname] ∉ m.types) (hfld : iname ∉ sc.localsBefore) :
    (rel version self ctx).map (resolveRef m sc) = some (.type self.full) := by
  unfold rel
  simp only [hdiff, if_false]
  unfold importName at hi
  cases hs : strSegs version self with
  | none => simp [hs] at hi
  | some segs =>
    simp only [hs, Option.bind_some] at hi
    obtain ⟨m0, rfl⟩ : ∃ m0, segs = m0 :: (self.parent ++ [self.name]) := by
      rw [strSegs, if_neg hmod, Option.map_eq_some_iff] at hs
      obtain ⟨al, _, rfl⟩ := hs
      exact ⟨_, rfl⟩
    simp only [List.head?_cons, Option.some.injEq] at hi
    subst hi
    simp [resolveRef, pyEval, hloc, hfld, himp, Addr.full]

/-- hypotheses of `rel_cross_module_resolves` hold for a reference to google.protobuf.Timestamp and for a
    reference to a colliding module of the package (alias `al_shared`) -/
example :
    let m : Module := ⟨["acme".toList, "lib".toList, "v1".toList], [["A".toList]], ["A".toList]⟩
    let ts : Addr := ⟨["google".toList, "protobuf".toList], "timestamp".toList, [], "Timestamp".toList, false, false⟩
    let it : Addr := ⟨["acme".toList, "lib".toList, "v1".toList], "shared".toList, [], "Item".toList, true, true⟩
    let ctx : Addr := ⟨["acme".toList, "lib".toList, "v1".toList], "alpha".toList, [], "A".toList, true, false⟩
    let sc : Scope := ⟨["A".toList], ["shared".toList], [("timestamp_pb2".toList, ts.package), ("al_shared".toList, it.package)]⟩
    importName "v1".toList ts = some "timestamp_pb2".toList ∧ importName "v1".toList it = some "al_shared".toList ∧
    (rel "v1".toList ts ctx).map (resolveRef m sc) = some (.type ts.full) ∧
    (rel "v1".toList it ctx).map (resolveRef m sc) = some (.type it.full) := by
  simp -index only [String.toList_ofList]
  unfold importName rel strSegs moduleAlias
  simp only [reserved_eq]
  decide +kernel

/-- the resolution hypothesis of `decl_roundtrip`, discharged by the two resolution theorems above -/
theorem resolves_of_rel (version : Name) (m : Module) (sc : Scope) (ctx : Addr) (tgt : Option Target)
    (h : ∀ x, tgt = some x → (rel version x.addr ctx).map (resolveRef m sc) = some (.type x.addr.full)) :
    Resolves version ctx (fun r => (resolveRef m sc r).toOption) tgt := by
  intro x hx
  obtain ⟨r, hr, hh⟩ := Option.map_eq_some_iff.mp (h x hx)
  exact ⟨r, hr, congrArg Resolved.toOption hh⟩

/-- **End to end for one non-map field**: under Python's scoping and proto-plus's late resolution the
    declaration the template prints is read back as the input field, whenever the reference resolves
    (`rel_resolves` / `rel_cross_module_resolves`). -/
theorem decl_roundtrip_python (version : Name) (m : Module) (sc : Scope) (ctx : Addr) (parentFull : List Name)
    (f : FieldView) (wf : WF f) (hm : f.isMap = false)
    (h : ∀ x, f.target = some x → (rel version x.addr ctx).map (resolveRef m sc) = some (.type x.addr.full)) :
    ∃ d, emitDecl version ctx f = some d ∧
      reconstruct (fun r => (resolveRef m sc r).toOption) parentFull d = some (expected parentFull f) := by
  apply decl_roundtrip version ctx _ parentFull f wf
  simp only [hm, Bool.false_eq_true, if_false]
  exact resolves_of_rel version m sc ctx f.target h

/-- the shape of the repaired defect §9-F9: a NESTED message whose own simple name equals the top-level
    ancestor of the target, while its own top-level ancestor is a different message (used by the
    regression theorems only; `rel_resolves` covers it) -/
def ShadowedShape (cp : List Name) (cn : Name) (tp : List Name) : Prop :=
  cp ≠ [] ∧ tp ≠ [] ∧ tp.head? = some cn ∧ tp.head? ≠ cp.head?

instance (cp : List Name) (cn : Name) (tp : List Name) : Decidable (ShadowedShape cp cn tp) := by
  unfold ShadowedShape; infer_instance

/-- regression for §9-F9 (repaired by 92701a6) at its smallest input:
    `message A { message B {} }  message X { message A { A.B f = 1; } }`.  The template now prints the quoted
    full path `'A.B'` inside the body of `X.A` and it resolves to `A.B` (before the repair: the bare `B`,
    `NameError` on import). -/
theorem rel_shadowed_regression :
    let pkg := ["acme".toList]
    let m : Module := ⟨pkg, [["A".toList], ["A".toList, "B".toList], ["X".toList], ["X".toList, "A".toList]],
                       ["A".toList, "X".toList]⟩
    let tgt : Addr := ⟨pkg, "lib".toList, ["A".toList], "B".toList, true, false⟩
    let ctx : Addr := ⟨pkg, "lib".toList, ["X".toList], "A".toList, true, false⟩
    ShadowedShape ctx.parent ctx.name tgt.parent ∧
    rel [] tgt ctx = some (.quoted ["A".toList, "B".toList]) ∧
    (rel [] tgt ctx).map (resolveRef m ⟨["X".toList, "A".toList], [], []⟩) = some (.type tgt.full) := by
  simp -index only [String.toList_ofList]
  decide +kernel

/-- regression for the silent variant: `X.A` has its own nested `B`; the reference still binds to `A.B`
    (before the repair: to `X.A.B`, the wrong type on the wire) -/
theorem rel_shadowed_nested_regression :
    let pkg := ["acme".toList]
    let m : Module := ⟨pkg, [["A".toList], ["A".toList, "B".toList], ["X".toList], ["X".toList, "A".toList],
                             ["X".toList, "A".toList, "B".toList]], ["A".toList, "X".toList]⟩
    let tgt : Addr := ⟨pkg, "lib".toList, ["A".toList], "B".toList, true, false⟩
    let ctx : Addr := ⟨pkg, "lib".toList, ["X".toList], "A".toList, true, false⟩
    (rel [] tgt ctx).map (resolveRef m ⟨["X".toList, "A".toList], [], []⟩) =
      some (.type ["acme".toList, "A".toList, "B".toList]) ∧
    tgt.full = ["acme".toList, "A".toList, "B".toList] := by
  simp -index only [String.toList_ofList]
  decide +kernel

/-- the bare-name rule survives where it is sound: a TOP-LEVEL message referring to its own nested type -/
theorem rel_bare_only_from_top_level (version : Name) (self ctx : Addr) (segs : List Name)
    (h : rel version self ctx = some (.bare segs))
    (hsame : self.package = ctx.package ∧ self.module = ctx.module) :
    ctx.parent = [] ∧ self.parent.head? = some ctx.name ∧ segs = self.parent.tail ++ [self.name] := by
  rw [rel_same_module version self ctx hsame, Option.some.injEq] at h
  split at h
  · rename_i h2
    exact ⟨h2.2.1, h2.2.2, (Ref.bare.inj h).symm⟩
  · cases h

/-! ## `Address.rel` over the method body translated from the current source (Model/AddressT.lean, Lemmas/AddressT.lean) -/
section TranslatedRel
open GapicModel.Model.AddressT GapicModel.Lemmas.AddressT GapicModel.PyRt GapicModel.Pinned.Funcs

/-- **a reference inside the file being written is late-bound (quoted) unless it is to a type nested in the top-level message
being written**; a type of another file is referred to by `str(self)`.  Stated about the translation of `Address.rel` as it stands
in /repo.  (A bare name for "earlier" declarations — the trial change `seeded/seed8_C02` — contradicts it: a nested message's reference
to its enclosing message would be bare.) -/
theorem translated_rel_quotes_same_file_references (a b : GapicModel.Model.AddressT.Addr) :
    ((a.package == b.package && a.module == b.module) = false ∧ GapicModel.Model.AddressT.rel a b = str a) ∨
    ((a.package == b.package && a.module == b.module) = true ∧
      (quoted (GapicModel.Model.AddressT.rel a b) ∨
       (b.parent = [] ∧ a.parent.head? = some b.name ∧
        GapicModel.Model.AddressT.rel a b = join ['.'] (a.parent.drop 1 ++ [a.name])))) :=
  rel_cases a b

/-- `Address.rel` raises for no input -/
theorem translated_rel_never_raises (sp : List Str) (sm : Str) (spar : List Str) (sn : Str) (op : List Str) (om : Str)
    (opar : List Str) (on s : Str) : address_rel_ok sp sm spar sn op om opar on s = true :=
  rel_never_raises sp sm spar sn op om opar on s

/-- non-vacuity: a nested message referring to its enclosing message is quoted; the enclosing message referring to its nested
type is bare; another file's type is `module.Name` -/
example :
    let n : NamingV := ⟨true, "acme.lib.v1".toList, "v1".toList, [], "lib_v1".toList, []⟩
    let pk := ["acme".toList, "lib".toList, "v1".toList]
    let tree : GapicModel.Model.AddressT.Addr := ⟨"Tree".toList, "lib".toList, pk, [], [], n⟩
    let branch : GapicModel.Model.AddressT.Addr := ⟨"Branch".toList, "lib".toList, pk, ["Tree".toList], [], n⟩
    let other : GapicModel.Model.AddressT.Addr := ⟨"Leaf".toList, "leaf".toList, pk, [], [], n⟩
    GapicModel.Model.AddressT.rel tree branch = "'Tree'".toList ∧
    GapicModel.Model.AddressT.rel branch tree = "Branch".toList ∧
    GapicModel.Model.AddressT.rel other tree = "leaf.Leaf".toList := by
  simp -index only [String.toList_ofList]
  unfold GapicModel.Model.AddressT.rel GapicModel.Model.AddressT.str GapicModel.Model.AddressT.moduleAlias address_module_alias
  simp only [Tables.reserved_eq]
  decide +kernel

/-- the hand-written `fieldAttr` of the C02 model IS the translation of `Field.name` as it stands in /repo -/
theorem fieldAttr_is_translated (pp : Bool) (n : List Char) :
    GapicModel.Model.Types.fieldAttr pp n = GapicModel.Pinned.Funcs.field_name n pp := by
  unfold GapicModel.Model.Types.fieldAttr GapicModel.Pinned.Funcs.field_name GapicModel.Model.Types.reserved
  simp only [GapicModel.PyRt.strIn, List.contains_iff_mem, Bool.and_eq_true]

end TranslatedRel

end GapicModel.Props.C02
