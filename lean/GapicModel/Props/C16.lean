import GapicModel.Model.Selective
import GapicModel.Pinned.Funcs
import GapicModel.Lemmas.Tables
import GapicModel.Lemmas.Keyed
/-
C16 — selective generation keeps exactly the listed RPCs and a closed set of types (DESIGN §7.16).

The traversal is specified over an ABSTRACT successor function: `Pass succ f es acc R` says what the calls for the edges
`es` make of the set `acc` — nothing is lost, whatever is new is reachable (any fuel, any graph), and the result is closed
under `succ` once the fuel covers the messages not yet visited plus the method depth.  `visit_pass` proves it of `visit`
by one induction on the fuel.  What is proved of `allowlist` is that statement for `Api.succ`, with the certificate
(`Api.msgAddrs`, `Api.rank`) the decidable check `Api.wf` provides; pruning, emission and the theorems about RPCs and
services use the allow-list through `allowlist_sound`, `allowlist_closed` and `allowlist_least` only.
-/
namespace GapicModel.Props.C16
open GapicModel.Model.Selective

section Aux

theorem mem_ins {a x : Addr} {acc : List Addr} : x ∈ ins a acc ↔ x = a ∨ x ∈ acc := by
  unfold ins; split <;> simp_all

theorem visit_zero (succ) (e : Edge) (acc : List Addr) : visit succ 0 e acc = ins e.target acc := by
  cases e <;> rfl

/-- Every call adds the target first; it then walks the successors unless it is out of fuel, the edge is a leaf, or
the guard of `MessageType.add_to_address_allowlist` fires. -/
theorem visit_succ (succ) (f : Nat) (e : Edge) (acc : List Addr) :
    visit succ (f + 1) e acc =
      if e.expands = true ∧ (e.isMeth = true ∨ e.target ∉ acc)
      then visitList succ f (succ e.target) (ins e.target acc) else ins e.target acc := by
  cases e with
  | leaf a => exact (if_neg fun h => nomatch h.1).symm
  | meth a => exact (if_pos ⟨rfl, Or.inl rfl⟩).symm
  | msg a =>
    show (if a ∈ acc then acc else visitList succ f (succ a) (a :: acc)) =
      if true = true ∧ (false = true ∨ a ∉ acc) then visitList succ f (succ a) (ins a acc) else ins a acc
    by_cases h : a ∈ acc <;> simp [ins, h]

/-- x reachable from edge e -/
inductive From (succ : Addr → List Edge) : Edge → Addr → Prop
  | here (e) : From succ e e.target
  | next {e e' x} : e.expands = true → e' ∈ succ e.target → From succ e' x → From succ e x

def Reachable (succ : Addr → List Edge) (roots : List Edge) (x : Addr) : Prop :=
  ∃ e ∈ roots, From succ e x

theorem from_closed (succ) (S : Addr → Prop) (hS : ∀ a, S a → ∀ e ∈ succ a, S e.target) :
    ∀ e x, From succ e x → S e.target → S x := by
  intro e x h
  induction h with
  | here e => exact id
  | next _ he' _ ih => intro hs; exact ih (hS _ hs _ he')

/-- number of `univ` entries not yet in the set -/
def unv (univ acc : List Addr) : Nat := (univ.filter (fun x => !decide (x ∈ acc))).length

theorem filter_missing (univ : List Addr) {acc acc' : List Addr} (h : ∀ x ∈ acc, x ∈ acc') :
    univ.filter (fun x => !decide (x ∈ acc')) =
      (univ.filter (fun x => !decide (x ∈ acc))).filter (fun x => !decide (x ∈ acc')) := by
  rw [List.filter_filter]
  congr; funext x
  by_cases hx : x ∈ acc <;> simp [hx, h x]

theorem unv_mono (univ : List Addr) {acc acc' : List Addr} (h : ∀ x ∈ acc, x ∈ acc') :
    unv univ acc' ≤ unv univ acc := by
  unfold unv; rw [filter_missing univ h]; exact List.length_filter_le _ _

theorem unv_lt (univ : List Addr) {acc acc' : List Addr} {a : Addr} (hu : a ∈ univ) (ha : a ∉ acc)
    (ha' : a ∈ acc') (h : ∀ x ∈ acc, x ∈ acc') : unv univ acc' < unv univ acc := by
  unfold unv
  rw [filter_missing univ h, List.length_filter_lt_length_iff_exists]
  exact ⟨a, List.mem_filter.mpr ⟨hu, by simpa using ha⟩, by simpa using ha'⟩

/-- what the completeness proof needs of an edge before it is visited -/
def Adm (succ : Addr → List Edge) (univ : List Addr) (rank : Addr → Nat) (e : Edge) : Prop :=
  match e with
  | .leaf a => succ a = []
  | .msg a => a ∈ univ
  | .meth a => ∀ e' ∈ succ a, rank e'.target < rank a

/-- The certificate under which the fuel can be bounded: every message the traversal can meet is in `univ` (the guard lets
each be expanded once), and `rank` falls along every edge out of a method (a method is expanded every time it is met). -/
structure GraphOK (succ : Addr → List Edge) (univ : List Addr) (rank : Addr → Nat) : Prop where
  adm : ∀ b, ∀ e ∈ succ b, Adm succ univ rank e
  rankLe : ∀ b, ∀ e ∈ succ b, rank e.target ≤ rank b

/-- `R` is what calls for the edges `es`, one after the other with `f` levels of fuel each, make of `acc`: nothing is
lost; whatever is new is reachable from one of the edges (any fuel, any graph); and if the fuel covers the messages not
yet visited plus the method depth of every edge, all targets are in and every NEW node has its successors in `R`. -/
structure Pass (succ : Addr → List Edge) (f : Nat) (es : List Edge) (acc R : List Addr) : Prop where
  mono : ∀ x ∈ acc, x ∈ R
  sound : ∀ x ∈ R, x ∈ acc ∨ Reachable succ es x
  closed : ∀ univ rank, GraphOK succ univ rank →
    (∀ e ∈ es, Adm succ univ rank e ∧ unv univ acc + rank e.target + 1 ≤ f) →
    (∀ e ∈ es, e.target ∈ R) ∧ ∀ x ∈ R, x ∉ acc → ∀ e' ∈ succ x, e'.target ∈ R

variable {succ : Addr → List Edge}

theorem Pass.nil (f : Nat) (acc : List Addr) : Pass succ f [] acc acc :=
  ⟨fun _ h => h, fun _ h => Or.inl h, fun _ _ _ _ => ⟨nofun, fun _ h hn => absurd h hn⟩⟩

/-- passes compose: this is all that `visitList` adds to `visit` -/
theorem Pass.cons {f : Nat} {e : Edge} {es : List Edge} {acc R₁ R₂ : List Addr}
    (h₁ : Pass succ f [e] acc R₁) (h₂ : Pass succ f es R₁ R₂) :
    Pass succ f (e :: es) acc R₂ where
  mono x hx := h₂.mono x (h₁.mono x hx)
  sound x hx := by
    rcases h₂.sound x hx with h | ⟨e', he', hf⟩
    · rcases h₁.sound x h with h | ⟨e', he', hf⟩
      · exact Or.inl h
      · exact Or.inr ⟨e', List.mem_singleton.mp he' ▸ List.mem_cons_self, hf⟩
    · exact Or.inr ⟨e', List.mem_cons_of_mem _ he', hf⟩
  closed univ rank ok h := by
    obtain ⟨t₁, c₁⟩ := h₁.closed univ rank ok fun e' he' => h e' (List.mem_singleton.mp he' ▸ List.mem_cons_self)
    obtain ⟨t₂, c₂⟩ := h₂.closed univ rank ok fun e' he' => (h e' (List.mem_cons_of_mem _ he')).imp_right
      (Nat.le_trans (Nat.add_le_add_right (Nat.add_le_add_right (unv_mono univ h₁.mono) _) _))
    refine ⟨fun e' he' => ?_, fun x hx hn e' he' => ?_⟩
    · rcases List.mem_cons.mp he' with rfl | he'
      · exact h₂.mono _ (t₁ _ List.mem_cons_self)
      · exact t₂ _ he'
    · by_cases hx₁ : x ∈ R₁
      · exact h₂.mono _ (c₁ x hx₁ hn e' he')
      · exact c₂ x hx hx₁ e' he'

theorem Pass.visitList {f : Nat} (hv : ∀ e acc, Pass succ f [e] acc (visit succ f e acc)) :
    ∀ es acc, Pass succ f es acc (visitList succ f es acc)
  | [], acc => Pass.nil f acc
  | e :: es, acc => (hv e acc).cons (Pass.visitList hv es _)

/-- adding the target alone is a pass whenever the closure part asks nothing of it -/
theorem Pass.target {f : Nat} {e : Edge} {acc : List Addr}
    (h : ∀ univ rank, Adm succ univ rank e → unv univ acc + rank e.target + 1 ≤ f → e.target ∉ acc → succ e.target = []) :
    Pass succ f [e] acc (ins e.target acc) where
  mono x hx := mem_ins.mpr (Or.inr hx)
  sound x hx := (mem_ins.mp hx).symm.imp_right fun (hx : x = e.target) => ⟨e, List.mem_singleton_self e, hx ▸ From.here e⟩
  closed univ rank _ hb := by
    refine ⟨fun e' he' => List.mem_singleton.mp he' ▸ mem_ins.mpr (Or.inl rfl), fun x hx hn e' he' => ?_⟩
    obtain rfl : x = e.target := (mem_ins.mp hx).resolve_right hn
    obtain ⟨hadm, hf⟩ := hb e (List.mem_singleton_self e)
    rw [h univ rank hadm hf hn] at he'; cases he'

/-- … and so is adding the target and then passing over its successors with one level less: a new message uses up
one of the `unv` messages, a method one level of `rank`. -/
theorem Pass.descend {f : Nat} {e : Edge} {acc R : List Addr} (hx : e.expands = true)
    (hg : e.isMeth = true ∨ e.target ∉ acc)
    (h : Pass succ f (succ e.target) (ins e.target acc) R) : Pass succ (f + 1) [e] acc R where
  mono x hx := h.mono x (mem_ins.mpr (Or.inr hx))
  sound x hx := by
    rcases h.sound x hx with h | ⟨e', he', hf⟩
    · exact (mem_ins.mp h).symm.imp_right fun (hx : x = e.target) => ⟨e, List.mem_singleton_self e, hx ▸ From.here e⟩
    · exact Or.inr ⟨e, List.mem_singleton_self e, From.next ‹_› he' hf⟩
  closed univ rank ok hb := by
    obtain ⟨hadm, hf⟩ := hb e (List.mem_singleton_self e)
    have hi : ∀ x ∈ acc, x ∈ ins e.target acc := fun x hx => mem_ins.mpr (Or.inr hx)
    have hfuel : ∀ e' ∈ succ e.target, unv univ (ins e.target acc) + rank e'.target < unv univ acc + rank e.target := by
      intro e' he'
      cases e with
      | leaf a => cases hx
      | msg a =>
        exact Nat.add_lt_add_of_lt_of_le (unv_lt univ hadm (hg.resolve_left nofun) (mem_ins.mpr (Or.inl rfl)) hi)
          (ok.rankLe _ e' he')
      | meth a => exact Nat.add_lt_add_of_le_of_lt (unv_mono univ hi) (hadm e' he')
    obtain ⟨t, c⟩ := h.closed univ rank ok fun e' he' => ⟨ok.adm _ e' he', by have := hfuel e' he'; omega⟩
    refine ⟨fun e' he' => ?_, fun x hx hn e' he' => ?_⟩
    · obtain rfl : e' = e := List.mem_singleton.mp he'
      exact h.mono _ (mem_ins.mpr (Or.inl rfl))
    · by_cases hxa : x = e.target
      · exact t e' (hxa ▸ he')
      · exact c x hx (fun h => hxa ((mem_ins.mp h).resolve_right hn)) e' he'

theorem visit_pass : ∀ (f : Nat) (e : Edge) (acc : List Addr), Pass succ f [e] acc (visit succ f e acc)
  | 0, e, acc => visit_zero succ e acc ▸ Pass.target fun _ _ _ h => by omega
  | f + 1, e, acc => by
    rw [visit_succ]
    split
    · next h => exact Pass.descend h.1 h.2 (Pass.visitList (visit_pass f) _ _)
    · next h =>
      refine Pass.target fun _ _ hadm _ hn => ?_
      cases e with
      | leaf a => exact hadm
      | msg a => exact absurd ⟨rfl, Or.inr hn⟩ h
      | meth a => exact absurd ⟨rfl, Or.inl rfl⟩ h

/-- `findMethodIn` is a `find?` over all (proto, method) pairs in order -/
theorem findMethodIn_eq (a : Addr) : ∀ (ps : List Proto),
    findMethodIn ps a = (ps.flatMap fun p => p.methods.map (Prod.mk p)).find? (fun pm => pm.2.addr == a)
  | [] => rfl
  | p :: ps => by
    rw [findMethodIn, List.flatMap_cons, List.find?_append, List.find?_map, findMethodIn_eq a ps]
    simp only [Function.comp_def]
    cases p.methods.find? (fun m => m.addr == a) <;> rfl

theorem findMethodIn_some {ps : List Proto} {a : Addr} {p : Proto} {m : Method}
    (h : findMethodIn ps a = some (p, m)) : p ∈ ps ∧ m ∈ p.methods ∧ m.addr = a := by
  rw [findMethodIn_eq] at h
  obtain ⟨q, hq, hm⟩ := List.mem_flatMap.mp (List.mem_of_find?_eq_some h)
  obtain ⟨m', hm', e⟩ := List.mem_map.mp hm
  cases e
  exact ⟨hq, hm', by simpa using List.find?_some h⟩

theorem findMethodIn_self (ps : List Proto) (p : Proto) (m : Method)
    (hnd : (ps.flatMap fun p => p.methods.map (·.addr)).Nodup) (hp : p ∈ ps) (hm : m ∈ p.methods) :
    findMethodIn ps m.addr = some (p, m) := by
  rw [findMethodIn_eq]
  refine Keyed.find?_eq_of_key (·.2.addr) _ (p, m) _ ?_ (List.mem_flatMap.mpr ⟨p, hp, List.mem_map_of_mem hm⟩) (by simp)
  simpa [List.map_flatMap, Function.comp_def] using hnd

theorem findMsg_none_of_not_mem (api : Api) (a : Addr) (h : a ∉ api.msgAddrs) : api.findMsg a = none := by
  simpa [Api.findMsg, Api.msgAddrs] using h

theorem mem_methods_of_service {p : Proto} {s : Service} {m : Method} (hs : s ∈ p.services)
    (hm : m ∈ s.methods) : m ∈ p.methods :=
  List.mem_flatMap.mpr ⟨s, hs, hm⟩

theorem mem_methodAddrs {api : Api} {p : Proto} {m : Method} (hp : p ∈ api.protos) (hm : m ∈ p.methods) :
    m.addr ∈ api.methodAddrs :=
  List.mem_flatMap.mpr ⟨p, hp, List.mem_map.mpr ⟨m, hm, rfl⟩⟩

theorem mem_msgEdges {api : Api} {m : Message} {e : Edge} :
    e ∈ msgEdges api m ↔ (∃ f ∈ m.fields, e ∈ fieldEdges api f) ∨ (∃ a ∈ m.nestedEnums, .leaf a = e) ∨
      ∃ a ∈ m.nestedMsgs, .msg a = e := by
  simp only [msgEdges, List.mem_append, List.mem_flatMap, List.mem_map, or_assoc]

theorem msgEdges_not_meth (api : Api) (m : Message) : ∀ e ∈ msgEdges api m, e.isMeth = false := by
  intro e he
  rcases mem_msgEdges.mp he with ⟨f, _, hf⟩ | ⟨_, _, rfl⟩ | ⟨_, _, rfl⟩
  · simp only [fieldEdges, List.mem_append] at hf
    rcases hf with (hf | hf) | hf
    · split at hf <;> simp at hf; subst hf; rfl
    · split at hf <;> simp at hf; subst hf; rfl
    · split at hf
      · split at hf <;> simp at hf; subst hf; rfl
      · cases hf
  · rfl
  · rfl

theorem mem_extEdges {p : Proto} {x : ExtInfo} {e : Edge} :
    e ∈ extEdges p x ↔ ∃ s, p.services.find? (fun s => s.name == x.opService) = some s ∧
      (e = .leaf s.addr ∨ (∃ pm, s.methods.find? (·.polling) = some pm ∧ e = .meth pm.addr) ∨
        e = .msg x.request ∨ e = .msg x.operation) := by
  unfold extEdges
  cases p.services.find? (fun s => s.name == x.opService) with
  | none => simp
  | some s =>
    simp only [List.mem_append, List.mem_cons, List.not_mem_nil, or_false, or_assoc, Option.some.injEq, exists_eq_left']
    refine or_congr Iff.rfl (or_congr ?_ Iff.rfl)
    cases s.methods.find? (·.polling) <;> simp

theorem mem_methodEdges {p : Proto} {m : Method} {e : Edge} :
    e ∈ methodEdges p m ↔ (∃ l, m.lro = some l ∧ (e = .msg l.1 ∨ e = .msg l.2)) ∨
      (∃ x, m.ext = some x ∧ e ∈ extEdges p x) ∨ e = .msg m.input ∨ e = .msg m.output := by
  unfold methodEdges
  simp only [List.mem_append, List.mem_cons, List.not_mem_nil, or_false, or_assoc]
  refine or_congr ?_ (or_congr ?_ Iff.rfl)
  · rcases m.lro with _ | ⟨r, md⟩ <;> simp
  · cases m.ext <;> simp

/-- a method edge out of a method wrapper is the polling method of the resolved operation service,
and the service edge sits next to it -/
theorem meth_edge_inv (p : Proto) (m : Method) (a : Addr) (h : Edge.meth a ∈ methodEdges p m) :
    ∃ s ∈ p.services, ∃ pm ∈ s.methods, pm.addr = a ∧ Edge.leaf s.addr ∈ methodEdges p m := by
  simp only [mem_methodEdges, mem_extEdges, reduceCtorEq, Edge.meth.injEq, false_or, or_false, and_false,
    exists_false] at h
  obtain ⟨x, hx, s, hs, pm, hpm, rfl⟩ := h
  exact ⟨s, List.mem_of_find?_eq_some hs, pm, List.mem_of_find?_eq_some hpm, rfl,
    mem_methodEdges.mpr (.inr (.inl ⟨x, hx, mem_extEdges.mpr ⟨s, hs, .inl rfl⟩⟩))⟩

theorem mem_roots {api : Api} {listed : List (List Char)} {e : Edge} :
    e ∈ api.roots listed ↔ ∃ p ∈ api.protos, ∃ s ∈ p.services, ∃ m ∈ s.methods, m.fqn ∈ listed ∧
      (e = Edge.leaf s.addr ∨ e = Edge.meth m.addr) := by
  simp only [Api.roots, serviceRoots, List.mem_flatMap, List.mem_ite_nil_right, List.mem_cons, List.not_mem_nil, or_false]

/-- the three kinds of address `Api.succ` tells apart -/
theorem succ_cases (api : Api) (a : Addr) :
    (∃ msg ∈ api.msgs, msg.addr = a ∧ api.succ a = msgEdges api msg) ∨
    (∃ p ∈ api.protos, ∃ m ∈ p.methods, m.addr = a ∧ api.succ a = methodEdges p m) ∨
    api.succ a = [] := by
  unfold Api.succ
  cases hm : api.findMsg a with
  | some msg => exact Or.inl ⟨msg, List.mem_of_find?_eq_some hm, by simpa using List.find?_some hm, rfl⟩
  | none =>
    cases hf : api.findMethod a with
    | some pm =>
      obtain ⟨h1, h2, h3⟩ := findMethodIn_some hf
      exact Or.inr (Or.inl ⟨pm.1, h1, pm.2, h2, h3, rfl⟩)
    | none => exact Or.inr (Or.inr rfl)

theorem succ_of_msg {api : Api} {a : Addr} {msg : Message} (h : api.findMsg a = some msg) :
    api.succ a = msgEdges api msg := by
  simp [Api.succ, h]

/-- the well-formedness checks run over the edges out of `api.nodes`; there are no others -/
theorem forall_nodes_succ {api : Api} {P : Addr → Edge → Prop} :
    (∀ b ∈ api.nodes, ∀ e ∈ api.succ b, P b e) ↔ ∀ b, ∀ e ∈ api.succ b, P b e := by
  refine ⟨fun h b e he => h b ?_ e he, fun h b _ => h b⟩
  rcases succ_cases api b with ⟨msg, hm, rfl, _⟩ | ⟨p, hp, m, hm, rfl, _⟩ | hs
  · exact List.mem_append_left _ (List.mem_map_of_mem hm)
  · exact List.mem_append_right _ (mem_methodAddrs hp hm)
  · rw [hs] at he; cases he

theorem adm_of_admissible (api : Api) (e : Edge) (h : api.admissible e = true) :
    Adm api.succ api.msgAddrs api.rank e := by
  cases e <;> simpa [Api.admissible, Adm] using h

/-- `Api.wf` read as propositions: `Api.msgAddrs` and `Api.rank` certify `Api.succ`, and every root is admissible with
method depth at most 2 -/
theorem wf_spec {api : Api} {listed : List (List Char)} (h : api.wf listed = true) :
    GraphOK api.succ api.msgAddrs api.rank ∧
    ∀ e ∈ api.roots listed, Adm api.succ api.msgAddrs api.rank e ∧ api.rank e.target ≤ 2 := by
  simp only [Api.wf, Bool.and_eq_true, List.all_eq_true, decide_eq_true_eq, forall_nodes_succ] at h
  exact ⟨⟨fun b e he => adm_of_admissible api e (h.1 b e he).1, fun b e he => (h.1 b e he).2⟩,
    fun e he => (h.2 e he).imp_left (adm_of_admissible api e)⟩

/-- `Api.wfAddrs` read as propositions -/
theorem wfAddrs_spec {api : Api} {listed : List (List Char)} (h : api.wfAddrs listed = true) :
    api.methodAddrs.Nodup ∧ (∀ a ∈ api.methodAddrs, a ∉ api.msgAddrs) ∧
    (∀ b, ∀ e ∈ api.succ b, e.isMeth = true ∨ e.target ∉ api.methodAddrs) ∧
    ∀ e ∈ api.roots listed, e.isMeth = true ∨ e.target ∉ api.methodAddrs := by
  simpa only [Api.wfAddrs, Bool.and_eq_true, decide_eq_true_eq, List.all_eq_true, Bool.or_eq_true,
    Bool.not_eq_true', List.contains_eq_mem, decide_eq_false_iff_not, forall_nodes_succ, and_assoc] using h

theorem succ_of_method {api : Api} {listed : List (List Char)} (hA : api.wfAddrs listed = true)
    {p : Proto} {m : Method} (hp : p ∈ api.protos) (hm : m ∈ p.methods) :
    api.succ m.addr = methodEdges p m := by
  obtain ⟨hnd, hdis, _⟩ := wfAddrs_spec hA
  have h1 : api.findMsg m.addr = none := findMsg_none_of_not_mem api m.addr (hdis _ (mem_methodAddrs hp hm))
  have h2 : api.findMethod m.addr = some (p, m) := findMethodIn_self api.protos p m hnd hp hm
  simp [Api.succ, h1, h2]

end Aux

/-! ## The allow-list is exactly the reachability closure -/

/-- Everything on the allow-list is reachable from a listed method (for every fuel, no hypothesis). -/
theorem allowlist_sound (api : Api) (listed : List (List Char)) (a : Addr)
    (h : a ∈ allowlist api listed) : Reachable api.succ (api.roots listed) a :=
  ((Pass.visitList (visit_pass _) _ []).sound a h).resolve_left nofun

/-- The allow-list contains the listed methods and their services and is closed under every edge
(field type, enum, resource reference, nested declaration, LRO and extended-operation types). -/
theorem allowlist_closed (api : Api) (listed : List (List Char)) (hwf : api.wf listed = true) :
    (∀ e ∈ api.roots listed, e.target ∈ allowlist api listed) ∧
    (∀ a ∈ allowlist api listed, ∀ e ∈ api.succ a, e.target ∈ allowlist api listed) := by
  obtain ⟨ok, hroots⟩ := wf_spec hwf
  obtain ⟨t, c⟩ := (Pass.visitList (visit_pass api.fuel) (api.roots listed) []).closed _ _ ok fun e he =>
    ⟨(hroots e he).1, by
      -- `Api.fuel`: one level for each message, and a root has method depth at most 2
      have := (hroots e he).2
      have : unv api.msgAddrs [] ≤ api.msgAddrs.length := List.length_filter_le _ _
      simp only [Api.fuel, Api.msgAddrs, List.length_map] at this ⊢
      omega⟩
  exact ⟨t, fun x hx => c x hx nofun⟩

/-- Everything reachable from a listed method is on the allow-list: the visited-guard loses nothing
and `Api.fuel` levels of recursion suffice. -/
theorem allowlist_complete (api : Api) (listed : List (List Char)) (hwf : api.wf listed = true)
    (a : Addr) (h : Reachable api.succ (api.roots listed) a) : a ∈ allowlist api listed := by
  obtain ⟨hroots, hcl⟩ := allowlist_closed api listed hwf
  obtain ⟨e, he, hf⟩ := h
  exact from_closed api.succ (· ∈ allowlist api listed) hcl e a hf (hroots e he)

theorem allowlist_iff (api : Api) (listed : List (List Char)) (hwf : api.wf listed = true) (a : Addr) :
    a ∈ allowlist api listed ↔ Reachable api.succ (api.roots listed) a :=
  ⟨allowlist_sound api listed a, allowlist_complete api listed hwf a⟩

/-- Minimality: the allow-list is contained in EVERY set of addresses that contains the listed
methods with their services and is closed under the edges (nested declarations are edges, so this is
minimality modulo "a kept message keeps what is declared inside it"). -/
theorem allowlist_least (api : Api) (listed : List (List Char)) (S : Addr → Prop)
    (hroots : ∀ e ∈ api.roots listed, S e.target) (hS : ∀ a, S a → ∀ e ∈ api.succ a, S e.target) :
    ∀ a ∈ allowlist api listed, S a := by
  intro a ha
  obtain ⟨e, he, hf⟩ := allowlist_sound api listed a ha
  exact from_closed api.succ S hS e a hf (hroots e he)

theorem mem_pruneService {al : List Addr} {s : Service} {m : Method} :
    m ∈ (pruneService al s).methods ↔ m ∈ s.methods ∧ m.addr ∈ al := by
  simp [pruneService]

theorem pruneProto_some {al : List Addr} {p p' : Proto} (h : pruneProto al p = some p') :
    p'.name = p.name ∧ (∀ a, a ∈ p'.messages ↔ a ∈ p.messages ∧ a ∈ al) ∧
    (∀ a, a ∈ p'.enums ↔ a ∈ p.enums ∧ a ∈ al) ∧
    ∀ s', s' ∈ p'.services ↔ ∃ s ∈ p.services, s.addr ∈ al ∧ pruneService al s = s' := by
  rw [pruneProto] at h
  split at h
  · cases h
  · cases h; simp [and_assoc]

theorem pruneProto_none {al : List Addr} {p : Proto} (h : pruneProto al p = none) :
    (∀ a ∈ p.messages, a ∉ al) ∧ (∀ a ∈ p.enums, a ∉ al) ∧ ∀ s ∈ p.services, s.addr ∉ al := by
  rw [pruneProto] at h
  split at h
  · next hc =>
    simp only [Bool.and_eq_true, List.isEmpty_iff, List.map_eq_nil_iff, List.filter_eq_nil_iff, decide_eq_true_eq] at hc
    exact ⟨hc.1.2, hc.2, hc.1.1⟩
  · cases h

/-- Closed: in a pruned proto every type a kept method refers to (input, output, LRO response and
metadata, extended-operation service/polling method/request/operation) and every type a kept message
refers to (field types, enums, resource references, nested declarations) is on the allow-list … -/
theorem pruned_closed (api : Api) (listed : List (List Char)) (hwf : api.wf listed = true)
    (hA : api.wfAddrs listed = true) (p p' : Proto) (hp : p ∈ api.protos)
    (h : pruneProto (allowlist api listed) p = some p') :
    (∀ s' ∈ p'.services, ∀ m ∈ s'.methods, ∀ e ∈ methodEdges p m, e.target ∈ allowlist api listed) ∧
    (∀ a ∈ p'.messages, ∀ msg, api.findMsg a = some msg → ∀ e ∈ msgEdges api msg, e.target ∈ allowlist api listed) := by
  obtain ⟨_, hm, _, hs⟩ := pruneProto_some h
  obtain ⟨_, hcl⟩ := allowlist_closed api listed hwf
  constructor
  · intro s' hs' m hm' e he
    obtain ⟨s, hs0, _, rfl⟩ := (hs s').mp hs'
    obtain ⟨hm0, hal⟩ := mem_pruneService.mp hm'
    exact hcl m.addr hal e (succ_of_method hA hp (mem_methods_of_service hs0 hm0) ▸ he)
  · intro a ha msg hmsg e he
    exact hcl a ((hm a).mp ha).2 e (succ_of_msg hmsg ▸ he)

/-- … and whatever is on the allow-list and declared in a proto to generate survives the pruning of
that proto (the proto is not dropped). -/
theorem pruned_keeps (al : List Addr) (p : Proto) (a : Addr) (ha : a ∈ al) :
    (a ∈ p.messages → ∃ p', pruneProto al p = some p' ∧ a ∈ p'.messages) ∧
    (a ∈ p.enums → ∃ p', pruneProto al p = some p' ∧ a ∈ p'.enums) ∧
    (∀ s ∈ p.services, s.addr = a → ∃ p', pruneProto al p = some p' ∧ pruneService al s ∈ p'.services) := by
  cases hp : pruneProto al p with
  | none =>
    obtain ⟨h1, h2, h3⟩ := pruneProto_none hp
    exact ⟨fun hm => absurd ha (h1 a hm), fun hm => absurd ha (h2 a hm), fun s hs hsa => absurd ha (hsa ▸ h3 s hs)⟩
  | some p' =>
    obtain ⟨_, h1, h2, h3⟩ := pruneProto_some hp
    exact ⟨fun hm => ⟨p', rfl, (h1 a).mpr ⟨hm, ha⟩⟩, fun hm => ⟨p', rfl, (h2 a).mpr ⟨hm, ha⟩⟩,
      fun s hs hsa => ⟨p', rfl, (h3 _).mpr ⟨s, hs, hsa ▸ ha, rfl⟩⟩⟩

/-- Minimal: every service, method, message and enum left in a pruned proto is reachable from a
listed method. -/
theorem pruned_minimal (api : Api) (listed : List (List Char)) (p p' : Proto)
    (h : pruneProto (allowlist api listed) p = some p') :
    (∀ s' ∈ p'.services, Reachable api.succ (api.roots listed) s'.addr ∧
        ∀ m ∈ s'.methods, Reachable api.succ (api.roots listed) m.addr) ∧
    (∀ a ∈ p'.messages, Reachable api.succ (api.roots listed) a) ∧
    (∀ a ∈ p'.enums, Reachable api.succ (api.roots listed) a) := by
  obtain ⟨_, hm, he, hs⟩ := pruneProto_some h
  refine ⟨fun s' hs' => ?_, fun a ha => allowlist_sound api listed _ ((hm a).mp ha).2,
    fun a ha => allowlist_sound api listed _ ((he a).mp ha).2⟩
  obtain ⟨s, _, hal, rfl⟩ := (hs s').mp hs'
  exact ⟨allowlist_sound api listed _ hal, fun m hm' => allowlist_sound api listed _ (mem_pruneService.mp hm').2⟩

/-- Pruning only removes: it never renames or adds a declaration. -/
theorem pruned_sub (al : List Addr) (p p' : Proto) (h : pruneProto al p = some p') :
    (∀ a ∈ p'.messages, a ∈ p.messages) ∧ (∀ a ∈ p'.enums, a ∈ p.enums) ∧
    (∀ s' ∈ p'.services, ∃ s ∈ p.services, s'.addr = s.addr ∧ s'.name = s.name ∧ ∀ m ∈ s'.methods, m ∈ s.methods) := by
  obtain ⟨_, hm, he, hs⟩ := pruneProto_some h
  refine ⟨fun a ha => ((hm a).mp ha).1, fun a ha => ((he a).mp ha).1, fun s' hs' => ?_⟩
  obtain ⟨s, hs0, _, rfl⟩ := (hs s').mp hs'
  exact ⟨s, hs0, rfl, rfl, fun m hm' => (mem_pruneService.mp hm').1⟩

/-! ## The classes the emitted `types` modules define -/

section Aux

theorem self_mem_declared (api : Api) (f : Nat) (a : Addr) : a ∈ declared api f a := by
  fun_cases declared api f a <;> simp

theorem declared_sub (api : Api) (S : Addr → Prop) (hS : ∀ a, S a → ∀ e ∈ api.succ a, S e.target)
    (f : Nat) (a : Addr) (ha : S a) : ∀ x ∈ declared api f a, S x := by
  induction f generalizing a with
  | zero => simpa [declared] using ha
  | succ f ih =>
    rw [declared]
    split
    · next m hm =>
      have hsucc := succ_of_msg hm
      simp only [List.forall_mem_cons, List.forall_mem_append, List.mem_flatMap, forall_exists_index, and_imp]
      exact ⟨ha, fun x hx => hS a ha (.leaf x) (hsucc ▸ mem_msgEdges.mpr (.inr (.inl ⟨x, hx, rfl⟩))),
        fun x c hc => ih c (hS a ha (.msg c) (hsucc ▸ mem_msgEdges.mpr (.inr (.inr ⟨c, hc, rfl⟩)))) x⟩
    · simpa using ha

end Aux

/-- Nothing unreachable is emitted: every class the `types` module of a pruned proto defines (the
top-level kept declarations and everything declared inside them) is on the allow-list. -/
theorem emitted_sub_allowlist (api : Api) (listed : List (List Char)) (hwf : api.wf listed = true)
    (p p' : Proto) (h : pruneProto (allowlist api listed) p = some p') :
    ∀ a ∈ p'.emitted api, a ∈ allowlist api listed := by
  obtain ⟨_, hm, he, _⟩ := pruneProto_some h
  obtain ⟨_, hcl⟩ := allowlist_closed api listed hwf
  intro a ha
  simp only [Proto.emitted, List.mem_append, List.mem_flatMap] at ha
  rcases ha with ⟨t, ht, hat⟩ | ha
  · exact declared_sub api (· ∈ allowlist api listed) hcl _ t ((hm t).mp (List.mem_filter.mp ht).1).2 a hat
  · exact ((he a).mp (List.mem_filter.mp ha).1).2

/-- A kept top-level message is emitted together with everything declared directly inside it. -/
theorem top_message_emitted_with_children (api : Api) (p' : Proto) (m : Message)
    (hm : api.findMsg m.addr = some m) (ht : m.addr ∈ p'.topMessages api) :
    m.addr ∈ p'.emitted api ∧ (∀ c ∈ m.nestedMsgs, c ∈ p'.emitted api) ∧ (∀ c ∈ m.nestedEnums, c ∈ p'.emitted api) := by
  -- `findMsg` finds something, so there is at least one level of `declared`
  obtain ⟨n, hn⟩ := Nat.exists_eq_add_one.mpr (List.length_pos_of_mem (List.mem_of_find?_eq_some hm))
  have hin : ∀ x ∈ declared api api.msgs.length m.addr, x ∈ p'.emitted api := fun x hx =>
    List.mem_append_left _ (List.mem_flatMap.mpr ⟨m.addr, ht, hx⟩)
  rw [hn, declared, hm] at hin
  exact ⟨hin _ List.mem_cons_self,
    fun c hc => hin c (.tail _ (List.mem_append_right _ (List.mem_flatMap.mpr ⟨c, hc, self_mem_declared api n c⟩))),
    fun c hc => hin c (.tail _ (List.mem_append_left _ hc))⟩

/-! ## Exactly the listed RPCs (plus the polling method of an extended operation) -/

/-- the methods the statement obliges the library to keep: the listed ones, and the polling method
that the extended-operation annotation of a needed method points to -/
inductive Needed (api : Api) (listed : List (List Char)) : Addr → Prop
  | listed {p s m} : p ∈ api.protos → s ∈ p.services → m ∈ s.methods → m.fqn ∈ listed → Needed api listed m.addr
  | polling {p m a} : p ∈ api.protos → m ∈ p.methods → Needed api listed m.addr →
      Edge.meth a ∈ methodEdges p m → Needed api listed a

theorem needed_kept (api : Api) (listed : List (List Char)) (hwf : api.wf listed = true)
    (hA : api.wfAddrs listed = true) (a : Addr) (h : Needed api listed a) : a ∈ allowlist api listed := by
  obtain ⟨hroots, hcl⟩ := allowlist_closed api listed hwf
  induction h with
  | listed hp hs hm hl => exact hroots _ (mem_roots.mpr ⟨_, hp, _, hs, _, hm, hl, Or.inr rfl⟩)
  | polling hp hm _ he ih => exact hcl _ ih _ (succ_of_method hA hp hm ▸ he)

theorem kept_method_needed (api : Api) (listed : List (List Char)) (hA : api.wfAddrs listed = true) :
    ∀ a ∈ allowlist api listed, a ∈ api.methodAddrs → Needed api listed a := by
  obtain ⟨_, _, hedges, hroots⟩ := wfAddrs_spec hA
  refine allowlist_least api listed _ ?_ ?_
  · intro e he hmem
    obtain ⟨p, hp, s, hs, m, hm, hl, rfl | rfl⟩ := mem_roots.mp he
    · exact absurd hmem ((hroots _ he).resolve_left nofun)
    · exact Needed.listed hp hs hm hl
  · intro a ha e he hmem
    -- only a method edge points at a method, and only a method wrapper has one
    have hme : e.isMeth = true := (hedges a e he).resolve_right (not_not_intro hmem)
    rcases succ_cases api a with ⟨msg, _, _, hs⟩ | ⟨p, hp, m, hm, rfl, hs⟩ | hs <;> rw [hs] at he
    · rw [msgEdges_not_meth api msg e he] at hme; cases hme
    · cases e with
      | meth x => exact Needed.polling hp hm (ha (mem_methodAddrs hp hm)) he
      | _ => cases hme
    · cases he

/-- A method of a proto to generate is on the allow-list — hence survives pruning — exactly when it
is listed or is the polling method needed by a kept extended-operation method. -/
theorem exactly_listed_rpcs (api : Api) (listed : List (List Char)) (hwf : api.wf listed = true)
    (hA : api.wfAddrs listed = true) (p : Proto) (s : Service) (m : Method)
    (hp : p ∈ api.protos) (hs : s ∈ p.services) (hm : m ∈ s.methods) :
    m ∈ (pruneService (allowlist api listed) s).methods ↔ Needed api listed m.addr := by
  simp only [mem_pruneService, hm, true_and]
  exact ⟨fun h => kept_method_needed api listed hA _ h (mem_methodAddrs hp (mem_methods_of_service hs hm)),
    needed_kept api listed hwf hA _⟩

/-- A service with a listed method is kept, with that method. -/
theorem listed_service_kept (api : Api) (listed : List (List Char)) (hwf : api.wf listed = true)
    (p : Proto) (s : Service) (m : Method) (hp : p ∈ api.protos) (hs : s ∈ p.services)
    (hm : m ∈ s.methods) (hl : m.fqn ∈ listed) :
    ∃ p', pruneProto (allowlist api listed) p = some p' ∧
      pruneService (allowlist api listed) s ∈ p'.services ∧
      m ∈ (pruneService (allowlist api listed) s).methods := by
  obtain ⟨hroots, _⟩ := allowlist_closed api listed hwf
  have hr := fun e he => hroots e (mem_roots.mpr ⟨p, hp, s, hs, m, hm, hl, he⟩)
  obtain ⟨p', hp', hs'⟩ := (pruned_keeps (allowlist api listed) p s.addr (hr (.leaf s.addr) (Or.inl rfl))).2.2 s hs rfl
  exact ⟨p', hp', hs', mem_pruneService.mpr ⟨hm, hr (.meth m.addr) (Or.inr rfl)⟩⟩

/-! ## Services: kept exactly with their needed methods -/

section Aux

theorem mem_services {api : Api} {p : Proto} {s : Service} (hp : p ∈ api.protos) (hs : s ∈ p.services) :
    s ∈ api.services :=
  List.mem_flatMap.mpr ⟨p, hp, hs⟩

/-- `Api.wfServices` read as propositions -/
theorem wfServices_spec {api : Api} (h : api.wfServices = true) :
    (∀ s ∈ api.services, ∀ s' ∈ api.services, s.addr = s'.addr → s = s') ∧
    (∀ a ∈ api.serviceAddrs, a ∉ api.methodAddrs) ∧
    (∀ b, ∀ e ∈ api.succ b, e.target ∈ api.serviceAddrs → extLeafOK api b e.target = true) ∧
    ∀ s ∈ api.services, ∀ m ∈ s.methods, ∀ s' ∈ api.services, ∀ m' ∈ s'.methods, m'.addr = m.addr → s'.addr = s.addr := by
  simpa only [Api.wfServices, Bool.and_eq_true, List.all_eq_true, Bool.or_eq_true, bne_iff_ne, ne_eq, beq_iff_eq,
    decide_eq_true_eq, Bool.not_eq_true', List.contains_eq_mem, decide_eq_false_iff_not, forall_nodes_succ, and_assoc,
    ← Decidable.imp_iff_not_or] using h

/-- `extLeafOK`: `b` is an extended-operation method, `t` its operation service, and that service has a polling method -/
theorem extLeafOK_spec {api : Api} {b t : Addr} (h : extLeafOK api b t = true) :
    ∃ p ∈ api.protos, ∃ m ∈ p.methods, m.addr = b ∧ ∃ s ∈ p.services, s.addr = t ∧
      ∃ pm ∈ s.methods, Edge.meth pm.addr ∈ methodEdges p m := by
  unfold extLeafOK at h
  repeat' split at h
  any_goals cases h
  next _ _ _ p m hfm _ x hx _ s hs =>
  obtain ⟨hp, hm, hma⟩ := findMethodIn_some hfm
  simp only [Bool.and_eq_true, beq_iff_eq, Option.isSome_iff_exists] at h
  obtain ⟨hst, pm, hpm⟩ := h
  exact ⟨p, hp, m, hm, hma, s, List.mem_of_find?_eq_some hs, hst, pm, List.mem_of_find?_eq_some hpm,
    mem_methodEdges.mpr (.inr (.inl ⟨x, hx, mem_extEdges.mpr ⟨s, hs, .inr (.inl ⟨pm, hpm, rfl⟩)⟩⟩))⟩

end Aux

/-- A needed method's service is on the allow-list, so the method really is in the pruned proto
(`exactly_listed_rpcs` speaks about the pruned service; this says the pruned service is there). -/
theorem needed_service_kept (api : Api) (listed : List (List Char)) (hwf : api.wf listed = true)
    (hA : api.wfAddrs listed = true) (hSv : api.wfServices = true) (a : Addr) (h : Needed api listed a) :
    ∀ p ∈ api.protos, ∀ s ∈ p.services, ∀ m ∈ s.methods, m.addr = a → s.addr ∈ allowlist api listed := by
  obtain ⟨hroots, hcl⟩ := allowlist_closed api listed hwf
  obtain ⟨_, _, _, huniq⟩ := wfServices_spec hSv
  -- the service that is known to be kept holds a method with address `a`, and so does `s`: they have one address
  intro p hp s hs m hm hma
  cases h with
  | @listed p0 s0 m0 hp0 hs0 hm0 hl =>
    rw [huniq s0 (mem_services hp0 hs0) m0 hm0 s (mem_services hp hs) m hm hma]
    exact hroots _ (mem_roots.mpr ⟨p0, hp0, s0, hs0, m0, hm0, hl, Or.inl rfl⟩)
  | @polling p0 m0 a hp0 hm0 hn he =>
    obtain ⟨s1, hs1, pm, hpm, hpma, hleaf⟩ := meth_edge_inv p0 m0 a he
    rw [huniq s1 (mem_services hp0 hs1) pm hpm s (mem_services hp hs) m hm (hma.trans hpma.symm)]
    exact hcl _ (needed_kept api listed hwf hA _ hn) (Edge.leaf s1.addr) (succ_of_method hA hp0 hm0 ▸ hleaf)

/-- Conversely a service that is kept holds at least one needed — hence kept — method: services that
are empty after the filter are removed, and no empty client class is emitted. -/
theorem kept_service_nonempty (api : Api) (listed : List (List Char)) (hwf : api.wf listed = true)
    (hA : api.wfAddrs listed = true) (hSv : api.wfServices = true) (p : Proto) (s : Service)
    (hp : p ∈ api.protos) (hs : s ∈ p.services) (h : s.addr ∈ allowlist api listed) :
    ∃ m ∈ s.methods, Needed api listed m.addr ∧ m ∈ (pruneService (allowlist api listed) s).methods := by
  obtain ⟨hroots, hcl⟩ := allowlist_closed api listed hwf
  obtain ⟨hinj, hdisj, hext, _⟩ := wfServices_spec hSv
  -- by minimality: every allow-listed address that is a service address names a service with a needed method
  have key : ∀ a ∈ allowlist api listed,
      a ∈ allowlist api listed ∧ ∀ s2 ∈ api.services, s2.addr = a → ∃ m ∈ s2.methods, Needed api listed m.addr := by
    refine allowlist_least api listed _ ?_ ?_
    · intro e he
      refine ⟨hroots e he, fun s2 hs2 hs2a => ?_⟩
      obtain ⟨p1, hp1, s1, hs1, m1, hm1, hl, rfl | rfl⟩ := mem_roots.mp he
      · exact hinj s2 hs2 s1 (mem_services hp1 hs1) hs2a ▸ ⟨m1, hm1, Needed.listed hp1 hs1 hm1 hl⟩
      · exact absurd (mem_methodAddrs hp1 (mem_methods_of_service hs1 hm1))
          (hdisj _ (List.mem_map.mpr ⟨s2, hs2, hs2a⟩))
    · intro a ha e he
      refine ⟨hcl a ha.1 e he, fun s2 hs2 hs2a => ?_⟩
      obtain ⟨p1, hp1, m1, hm1, rfl, s1, hs1, hs1a, pm, hpm, hedge⟩ :=
        extLeafOK_spec (hext a e he (List.mem_map.mpr ⟨s2, hs2, hs2a⟩))
      exact hinj s2 hs2 s1 (mem_services hp1 hs1) (hs2a.trans hs1a.symm) ▸ ⟨pm, hpm, Needed.polling hp1 hm1
        (kept_method_needed api listed hA _ ha.1 (mem_methodAddrs hp1 hm1)) hedge⟩
  obtain ⟨m, hm, hn⟩ := (key s.addr h).2 s (mem_services hp hs) rfl
  exact ⟨m, hm, hn, mem_pruneService.mpr ⟨hm, needed_kept api listed hwf hA _ hn⟩⟩

/-! ## The third pass of `API.build` -/

/-- With the settings accepted, the methods list non-empty and `generate_omitted_as_internal` unset,
the new `all_protos` are the dependencies followed by the pruned protos (dropped ones removed). -/
theorem thirdPass_prunes (api : Api) (settings : List LibSettings) (pp pkg : List Char) (s : LibSettings)
    (hv : validateSettings api.allMethods settings = []) (hl : lookupSettings settings pp pkg = some s)
    (hm : s.methods ≠ []) (hi : s.internal = false) :
    thirdPass api settings pp pkg =
      .built (api.deps ++ api.protos.filterMap (pruneProto (allowlist api s.methods))) := by
  unfold thirdPass
  simp [hv, hl, List.isEmpty_iff, hm, hi]

theorem thirdPass_internal (api : Api) (settings : List LibSettings) (pp pkg : List Char) (s : LibSettings)
    (hv : validateSettings api.allMethods settings = []) (hl : lookupSettings settings pp pkg = some s)
    (hm : s.methods ≠ []) (hi : s.internal = true) :
    thirdPass api settings pp pkg = .built (api.deps ++ api.protos.map (Proto.withInternal s.methods)) := by
  unfold thirdPass
  simp [hv, hl, List.isEmpty_iff, hm, hi]

/-- Protos of dependency packages are carried over unchanged and in place; every other proto of the
result comes from a proto to generate (same file name). -/
theorem dependencies_untouched (api : Api) (settings : List LibSettings) (pp pkg : List Char)
    (ps : List Proto) (h : thirdPass api settings pp pkg = .built ps) :
    ∃ ts, ps = api.deps ++ ts ∧ ∀ t ∈ ts, ∃ p ∈ api.protos, t.name = p.name := by
  rw [thirdPass] at h
  generalize validateSettings api.allMethods settings = errs at h
  generalize lookupSettings settings pp pkg = ls at h
  -- on constructors for the errors, the entry looked up, its method list and its flag `thirdPass` computes
  rcases errs with _ | _ <;> rcases ls with _ | ⟨_, _ | _, _ | _⟩ <;> cases h
  · refine ⟨_, rfl, fun t ht => ?_⟩
    obtain ⟨p, hp, hpt⟩ := List.mem_filterMap.mp ht
    exact ⟨p, hp, (pruneProto_some hpt).1⟩
  · exact ⟨_, rfl, fun t ht => by obtain ⟨p, hp, rfl⟩ := List.mem_map.mp ht; exact ⟨p, hp, rfl⟩⟩

/-! ## `generate_omitted_as_internal`: nothing is omitted, unlisted RPCs and their clients are renamed -/

/-- `with_internal_methods` changes nothing but the `is_internal` flag of unlisted methods. -/
theorem withInternal_eq (pub : List (List Char)) (m : Method) :
    m.withInternal pub = { m with internal := m.internal || !decide (m.fqn ∈ pub) } := by
  unfold Method.withInternal
  by_cases h : m.fqn ∈ pub <;> simp [h]

/-- With `generate_omitted_as_internal` nothing is omitted: same messages and enums, same services,
and every service has the same methods (addresses, names, request/response types) in the same order. -/
theorem internal_mode_omits_nothing (pub : List (List Char)) (p : Proto) :
    (p.withInternal pub).name = p.name ∧ (p.withInternal pub).messages = p.messages ∧
    (p.withInternal pub).enums = p.enums ∧
    (p.withInternal pub).services.map (fun s => (s.addr, s.name)) = p.services.map (fun s => (s.addr, s.name)) ∧
    ∀ s ∈ p.services,
      (s.withInternal pub).methods.map (fun m => (m.addr, m.name, m.fqn, m.input, m.output, m.lro, m.ext, m.polling))
        = s.methods.map (fun m => (m.addr, m.name, m.fqn, m.input, m.output, m.lro, m.ext, m.polling)) := by
  refine ⟨rfl, rfl, rfl, ?_, ?_⟩
  · simp [Proto.withInternal, Service.withInternal, List.map_map, Function.comp_def]
  · intro s _
    simp only [Service.withInternal, List.map_map]
    apply List.map_congr_left
    intro m _
    simp [withInternal_eq]

/-- `isKeyword` on the explicit character table: what the test vectors are evaluated with -/
theorem isKeyword_eq (cs : List Char) : isKeyword cs = Tables.keywords.contains (lowerAscii cs) := by
  unfold isKeyword; rw [Tables.contains_ofList, Tables.keywords_eq]

/-- Naming: an unlisted method gets a leading underscore (unless its name already has one); a listed
one keeps its name. -/
theorem internal_names (pub : List (List Char)) (m : Method) (hpub : m.internal = false)
    (hk : isKeyword m.name = false) :
    (m.fqn ∈ pub → (m.withInternal pub).clientMethodName = m.name) ∧
    (m.fqn ∉ pub → (∀ r, m.name ≠ '_' :: r) → (m.withInternal pub).clientMethodName = '_' :: m.name) := by
  constructor
  · intro h
    simp [Method.withInternal, h, Method.clientMethodName, hk, hpub]
  · intro h hn
    simp only [Method.withInternal, h, if_false, Method.clientMethodName, hk, Bool.false_eq_true, if_true]
    unfold makePrivate
    split
    · next r heq => exact absurd heq (hn r)
    · rfl

/-- The client classes get the prefix `Base` exactly when some method of the service is internal … -/
theorem client_names (s : Service) :
    (s.isInternal = true → s.clientName = "Base".toList ++ s.name ++ "Client".toList ∧
        s.asyncClientName = "Base".toList ++ s.name ++ "AsyncClient".toList) ∧
    (s.isInternal = false → s.clientName = s.name ++ "Client".toList ∧
        s.asyncClientName = s.name ++ "AsyncClient".toList) := by
  rw [Service.clientName, Service.asyncClientName]
  constructor <;> intro h <;> rw [h] <;> exact ⟨rfl, rfl⟩

/-- … and after `with_internal_methods` that is: exactly when the service has an unlisted method
(or already had an internal one). -/
theorem base_prefix_iff (pub : List (List Char)) (s : Service) :
    (s.withInternal pub).isInternal = true ↔ ∃ m ∈ s.methods, m.internal = true ∨ m.fqn ∉ pub := by
  simp only [Service.isInternal, Service.withInternal, List.any_map, List.any_eq_true, Function.comp, withInternal_eq,
    Bool.or_eq_true, Bool.not_eq_true', decide_eq_false_iff_not]

/-- every python method emitted for an RPC is named from `client_method_name` -/
theorem surfaceNames_stem (m : Method) : ∀ p ∈ m.surfaceNames, p.1 = m.clientMethodName := by
  intro p hp
  rw [Method.surfaceNames, List.mem_cons] at hp
  rcases hp with rfl | hp
  · rfl
  · split at hp
    · rw [List.mem_singleton.mp hp]
    · cases hp

/-- Every python method the client emits for an INTERNAL (unlisted) RPC — the method itself and, for an extended-operation
RPC, its `_unary` twin — has a stem that starts with an underscore; so has the emitted name (`snake_case` keeps a leading
underscore).  This is the clause "unlisted RPCs get a leading underscore" for the whole surface of the RPC. -/
theorem internal_surface_private (m : Method) (h : m.internal = true) :
    ∀ p ∈ m.surfaceNames, p.1.head? = some '_' := by
  intro p hp
  rw [surfaceNames_stem m p hp]
  simp only [Method.clientMethodName, h, if_true]
  generalize (if isKeyword m.name = true then m.name ++ ['_'] else m.name) = n
  unfold makePrivate
  split <;> simp

/-- the surface of a public (listed) RPC is named by the RPC's own name (keyword names get a trailing underscore) -/
theorem public_surface_names (m : Method) (h : m.internal = false) :
    ∀ p ∈ m.surfaceNames, p.1 = (if isKeyword m.name then m.name ++ ['_'] else m.name) := by
  intro p hp
  rw [surfaceNames_stem m p hp]
  simp [Method.clientMethodName, h]

/-- an extended-operation RPC has exactly two surfaces, an ordinary RPC one -/
theorem surface_count (m : Method) : m.surfaceNames.length = if m.ext.isSome then 2 else 1 := by
  unfold Method.surfaceNames; split <;> simp

/-- Link to the source: `Pinned.Funcs.service_client_name` / `service_async_client_name` are the Lean translations of
`gapic/schema/wrappers.py: Service.client_name / async_client_name` (harness/pyfun2lean.py; kept equal to the
current source by the bridge lemmas `Bridge.Funcs.service_client_name`, `…service_async_client_name`).  The model's
own functions ARE these translations, so `client_names`, `base_prefix_iff` and `internal_names` are about the code:
the prefix `Base` is added iff the service is internal, whatever the service's own name starts with. -/
theorem clientName_is_translated (s : Service) :
    s.clientName = Pinned.Funcs.service_client_name s.isInternal s.name ∧
    s.asyncClientName = Pinned.Funcs.service_async_client_name s.isInternal s.name := by
  simp -index only [Service.clientName, Service.asyncClientName, String.toList_ofList]
  exact ⟨rfl, rfl⟩

/-- `utils.make_private` of the model is the translation of `gapic/utils/code.py: make_private`. -/
theorem makePrivate_is_translated (n : List Char) : makePrivate n = Pinned.Funcs.make_private n := by
  unfold makePrivate Pinned.Funcs.make_private PyRt.startswith
  cases n with
  | nil => simp
  | cons c cs =>
    by_cases h : c = '_'
    · subst h; simp
    · simp [h, Ne.symm h]

/-- a service whose name already starts with `Base` is prefixed again when it is internal (BaseBaselineClient) -/
example : (Pinned.Funcs.service_client_name true "Baseline".toList) = "BaseBaselineClient".toList ∧
    (Pinned.Funcs.service_async_client_name true "Base".toList) = "BaseBaseAsyncClient".toList ∧
    (Pinned.Funcs.service_client_name false "Baseline".toList) = "BaselineClient".toList := by
  simp -index only [String.toList_ofList]
  decide +kernel

/-! ## Validation of the library settings (`API.enforce_valid_library_settings`) -/

section Aux

theorem dictSet_ne_nil {β} (d : List (List Char × β)) (k : List Char) (v : β) : dictSet d k v ≠ [] := by
  fun_cases dictSet d k v <;> simp

/-- what the code calls a bad entry of `selective_gapic_generation.methods` -/
def BadMethod (allMethods : List (List Char)) (version m : List Char) : Prop :=
  m ∉ allMethods ∨ (version ++ ['.']).isPrefixOf m = false

theorem foldl_eq_nil_iff {α σ} (step : List σ → α → List σ) (bad : α → Prop)
    (h₁ : ∀ d a, bad a → step d a ≠ []) (h₂ : ∀ d a, ¬ bad a → step d a = d) (as : List α) (d : List σ) :
    as.foldl step d = [] ↔ d = [] ∧ ∀ a ∈ as, ¬ bad a := by
  induction as generalizing d with
  | nil => simp
  | cons a as ih =>
    rw [List.foldl_cons, ih]
    by_cases hb : bad a
    · simp [h₁ d a hb, hb]
    · simp [h₂ d a hb, hb]

/-- ORDER-INDEPENDENT: the allow-list of one settings entry yields errors iff SOME entry of it is invalid (does not exist,
or does not carry the version plus a dot as a prefix) — wherever that entry stands, in particular before a valid last one. -/
theorem methodErrors_eq_nil_iff (allMethods : List (List Char)) (version : List Char) (ms : List (List Char)) :
    methodErrors allMethods version ms = [] ↔ ∀ m ∈ ms, ¬ BadMethod allMethods version m := by
  unfold methodErrors
  rw [foldl_eq_nil_iff _ (BadMethod allMethods version)]
  · simp
  · rintro d m (hb | hb)
    · simp only [hb, not_false_eq_true, if_true]; exact dictSet_ne_nil _ _ _
    · simp only [hb, Bool.not_false, if_true]; split <;> exact dictSet_ne_nil _ _ _
  · intro d m hb
    simp only [BadMethod, not_or, Decidable.not_not, Bool.not_eq_false] at hb
    simp [hb.1, hb.2]

theorem ite_isEmpty_eq_nil {α β} (me : List β) (errs d : List α) (hd : d ≠ []) :
    (if me.isEmpty then errs else d) = [] ↔ errs = [] ∧ me = [] := by
  cases me <;> simp [hd]

theorem validateLoop_eq_nil_iff (allMethods : List (List Char)) (ss : List LibSettings) (seen : List (List Char))
    (errs : List (List Char × SettingsErr)) :
    validateLoop allMethods ss seen errs = [] ↔
      errs = [] ∧ (∀ s ∈ ss, s.version ∉ seen) ∧ (ss.map (·.version)).Nodup ∧
        ∀ s ∈ ss, ∀ m ∈ s.methods, ¬ BadMethod allMethods s.version m := by
  fun_induction validateLoop allMethods ss seen errs with
  | case1 seen errs => simp
  | case2 s ss seen errs h ih =>
    rw [ih]
    exact ⟨fun h' => absurd h'.1 (dictSet_ne_nil _ _ _), fun h' => absurd h (h'.2.1 s List.mem_cons_self)⟩
  | case3 s ss seen errs h me ih =>
    rw [ih, ite_isEmpty_eq_nil _ _ _ (dictSet_ne_nil _ _ _), methodErrors_eq_nil_iff]
    simp only [List.mem_cons, List.map_cons, List.nodup_cons, List.mem_map, not_or, forall_eq_or_imp, not_exists,
      not_and, forall_and, h, not_false_eq_true, true_and]
    -- the same six conjuncts on both sides, grouped differently
    constructor
    · rintro ⟨⟨a, b⟩, ⟨c, d⟩, e, f⟩; exact ⟨a, d, ⟨c, e⟩, b, f⟩
    · rintro ⟨a, d, ⟨c, e⟩, b, f⟩; exact ⟨⟨a, b⟩, ⟨c, d⟩, e, f⟩

/-- The whole validation: accepted iff no version is listed twice and every listed method of every entry is valid. -/
theorem validateSettings_eq_nil_iff (allMethods : List (List Char)) (settings : List LibSettings) :
    validateSettings allMethods settings = [] ↔
      (settings.map (·.version)).Nodup ∧ ∀ s ∈ settings, ∀ m ∈ s.methods, ¬ BadMethod allMethods s.version m := by
  simp [validateSettings, validateLoop_eq_nil_iff]

end Aux

/-- Listing a method that does not exist in the API to generate, or one whose name does not start
with the version of its settings entry FOLLOWED BY A DOT (whole package segments, `fix:` a25ff42),
makes `API.build` raise `ClientLibrarySettingsError` — whatever else the service YAML says and for
whichever package the library is built. -/
theorem unknown_or_wrong_version_rejected (api : Api) (settings : List LibSettings) (pp pkg : List Char)
    (s : LibSettings) (m : List Char) (hs : s ∈ settings) (hm : m ∈ s.methods)
    (hbad : m ∉ api.allMethods ∨ (s.version ++ ['.']).isPrefixOf m = false) :
    ∃ errs, errs ≠ [] ∧ thirdPass api settings pp pkg = .rejected errs := by
  have hne : validateSettings api.allMethods settings ≠ [] :=
    fun h => ((validateSettings_eq_nil_iff _ _).mp h).2 s hs m hm hbad
  refine ⟨_, hne, ?_⟩
  unfold thirdPass
  simp [hne]

/-- Conversely nothing else is rejected: distinct versions whose methods all exist and carry the
version plus a dot as a prefix pass validation. -/
theorem valid_settings_accepted (allMethods : List (List Char)) (settings : List LibSettings)
    (hnd : (settings.map (·.version)).Nodup)
    (hgood : ∀ s ∈ settings, ∀ m ∈ s.methods, m ∈ allMethods ∧ (s.version ++ ['.']).isPrefixOf m = true) :
    validateSettings allMethods settings = [] :=
  (validateSettings_eq_nil_iff _ _).mpr
    ⟨hnd, fun s hs m hm hb => by simp [BadMethod, hgood s hs m hm] at hb⟩

/-- Permuting the entries of the allow-list (and the settings entries themselves) does not change the verdict. -/
theorem validateSettings_perm (allMethods : List (List Char)) {s1 s2 : List LibSettings} (hp : s1.Perm s2) :
    validateSettings allMethods s1 = [] ↔ validateSettings allMethods s2 = [] := by
  rw [validateSettings_eq_nil_iff, validateSettings_eq_nil_iff, (hp.map (·.version)).nodup_iff]
  simp only [hp.mem_iff]

theorem library_settings_rejected_perm (allMethods : List (List Char)) (s1 s2 : List LibSettings)
    (hnd : (s1.map (·.version)).Nodup) (hp : s1.Perm s2) :
    (validateSettings allMethods s1 ≠ [] ↔ validateSettings allMethods s2 ≠ []) :=
  not_congr (validateSettings_perm allMethods hp)

theorem methodErrors_perm (allMethods : List (List Char)) (version : List Char) (m1 m2 : List (List Char))
    (hp : m1.Perm m2) :
    (methodErrors allMethods version m1 ≠ [] ↔ methodErrors allMethods version m2 ≠ []) := by
  rw [Ne, Ne, methodErrors_eq_nil_iff, methodErrors_eq_nil_iff]
  simp only [hp.mem_iff]

/-- the lists of the seeded change seed11_C16 (DESIGN §15): an unknown method before a valid last one is rejected, like the
other order -/
example : validateSettings ["p.v1.Lib.Get".toList] [⟨"p.v1".toList, ["p.v1.Lib.Purge".toList, "p.v1.Lib.Get".toList], false⟩] ≠ [] ∧
    validateSettings ["p.v1.Lib.Get".toList] [⟨"p.v1".toList, ["p.v1.Lib.Get".toList, "p.v1.Lib.Purge".toList], false⟩] ≠ [] ∧
    validateSettings ["p.v1.Lib.Get".toList] [⟨"p.v1".toList, ["p.v1.Arc.Get".toList, "p.v1.Lib.Purge".toList, "p.v1.Lib.Get".toList], true⟩] ≠ [] := by
  simp -index only [String.toList_ofList]
  decide +kernel

/-- A version listed twice is rejected as well. -/
theorem duplicate_version_rejected (allMethods : List (List Char)) (s1 s2 : LibSettings)
    (h : s1.version = s2.version) : validateSettings allMethods [s1, s2] ≠ [] :=
  fun hv => (List.nodup_cons.mp ((validateSettings_eq_nil_iff _ _).mp hv).1).1 (List.mem_singleton.mpr h)

/-! ## Non-vacuity: a concrete API meeting every hypothesis used above

`exApi`: file `lib` with services `Lib` (Get, Other, Insert — an extended operation polled through
`Ops`) and `Ops` (Poll — the polling method, Wait); messages 10 GetReq (field of nested type 11
`Outer.Inner`, enum 20 `Outer.Kind`), 11 Outer.Inner, 12 Outer (declares 11 and the enums 20, 21), 13 Resp (resource
reference to 14), 14 Thing (recursive), 15 OtherReq (field 16), 16 Unused, 17 Operation, 18 PollReq,
19 InsertReq; a dependency file with message 50. -/

def exMsgs : List Message := [
  ⟨10, [⟨some 11, none, none⟩, ⟨none, some 20, none⟩], [], []⟩,
  ⟨11, [], [], []⟩,
  ⟨12, [], [20, 21], [11]⟩,
  ⟨13, [⟨none, none, some "r/T".toList⟩, ⟨some 50, none, none⟩], [], []⟩,
  ⟨14, [⟨some 14, none, none⟩], [], []⟩,
  ⟨15, [⟨some 16, none, none⟩], [], []⟩,
  ⟨16, [], [], []⟩, ⟨17, [], [], []⟩, ⟨18, [], [], []⟩, ⟨19, [⟨some 14, none, none⟩], [], []⟩,
  ⟨50, [], [], []⟩]

def exGet : Method := { addr := 30, name := "Get".toList, fqn := "p.Lib.Get".toList, input := 10, output := 13, lro := none, ext := none, polling := false }
def exOther : Method := { addr := 31, name := "Other".toList, fqn := "p.Lib.Other".toList, input := 15, output := 13, lro := some (14, 16), ext := none, polling := false }
def exInsert : Method := { addr := 32, name := "Insert".toList, fqn := "p.Lib.Insert".toList, input := 19, output := 17, lro := none,
                           ext := some ⟨"Ops".toList, 18, 17⟩, polling := false }
def exPoll : Method := { addr := 33, name := "Poll".toList, fqn := "p.Ops.Poll".toList, input := 18, output := 17, lro := none, ext := none, polling := true }
def exWait : Method := { addr := 34, name := "Wait".toList, fqn := "p.Ops.Wait".toList, input := 18, output := 17, lro := none, ext := none, polling := false }
def exLibSvc : Service := ⟨40, "Lib".toList, [exGet, exOther, exInsert]⟩
def exOpsSvc : Service := ⟨41, "Ops".toList, [exPoll, exWait]⟩
def exLib : Proto :=
  { name := "lib".toList, services := [exLibSvc, exOpsSvc],
    messages := [10, 11, 12, 13, 14, 15, 16, 17, 18, 19], enums := [20, 21] }

def exDep : Proto := { name := "dep".toList, services := [], messages := [50], enums := [] }

def exApi : Api := { protos := [exLib], deps := [exDep], msgs := exMsgs, resources := [("r/T".toList, 14)] }

def exListed : List (List Char) := ["p.Lib.Get".toList]
def exListedExt : List (List Char) := ["p.Lib.Insert".toList]

/-- Both listings in one declaration: most of each check (the edges out of every node) does not depend on `listed`, and
the kernel shares the evaluation of identical closed terms only within a declaration. -/
theorem exApi_wf : (exApi.wf exListed = true ∧ exApi.wfAddrs exListed = true ∧ exApi.wfServices = true) ∧
    exApi.wf exListedExt = true ∧ exApi.wfAddrs exListedExt = true := by
  simp -index only [exApi, exLib, exDep, exMsgs, exLibSvc, exOpsSvc, exGet, exOther, exInsert, exPoll, exWait, exListed, exListedExt, String.toList_ofList]
  decide +kernel
example : exApi.wf exListed = true ∧ exApi.wfAddrs exListed = true ∧ exApi.wfServices = true := exApi_wf.1
example : exApi.wf exListedExt = true ∧ exApi.wfAddrs exListedExt = true := exApi_wf.2

/-- listed Get: its service, request (with the nested type and the enum), response, the resource
message behind the reference (recursive), the dependency type — and nothing else -/
theorem exApi_allowlist : allowlist exApi exListed = [50, 14, 13, 20, 11, 10, 30, 40] := by
  simp -index only [exApi, exLib, exDep, exMsgs, exLibSvc, exOpsSvc, exGet, exOther, exInsert, exPoll, exWait, exListed, String.toList_ofList]
  decide +kernel
example : allowlist exApi exListed = [50, 14, 13, 20, 11, 10, 30, 40] := exApi_allowlist
/-- listed Insert: the operation service and its polling method come along, `Wait` does not -/
theorem exApi_allowlistExt : allowlist exApi exListedExt = [14, 19, 17, 18, 33, 41, 32, 40] := by
  simp -index only [exApi, exLib, exDep, exMsgs, exLibSvc, exOpsSvc, exGet, exOther, exInsert, exPoll, exWait, exListedExt, String.toList_ofList]
  decide +kernel
example : allowlist exApi exListedExt = [14, 19, 17, 18, 33, 41, 32, 40] := exApi_allowlistExt
/-- the operation service is kept with exactly its polling method (`kept_service_nonempty`, `needed_service_kept`) -/
example : exOpsSvc.addr ∈ allowlist exApi exListedExt ∧
    (pruneService (allowlist exApi exListedExt) exOpsSvc).methods = [exPoll] := by
  rw [exApi_allowlistExt]
  simp -index only [exOpsSvc, exPoll, exWait, String.toList_ofList]
  decide +kernel
example : Needed exApi exListedExt 33 :=
  kept_method_needed exApi exListedExt exApi_wf.2.2 33 (by rw [exApi_allowlistExt]; decide +kernel) (by decide +kernel)

theorem exApi_pruned : pruneProto (allowlist exApi exListed) exLib =
    some { exLib with services := [{ exLibSvc with methods := [exGet] }], messages := [10, 11, 13, 14], enums := [20] } := by
  rw [exApi_allowlist]
  simp -index only [exLib, exLibSvc, exOpsSvc, exGet, exOther, exInsert, exPoll, exWait, String.toList_ofList]
  decide +kernel
example : pruneProto (allowlist exApi exListed) exLib =
    some { exLib with services := [{ exLibSvc with methods := [exGet] }], messages := [10, 11, 13, 14], enums := [20] } :=
  exApi_pruned
example : pruneProto [] exLib = none := by decide +kernel
example : thirdPass exApi [⟨"p".toList, exListed, false⟩] "p".toList "p".toList =
    .built [exDep, { exLib with services := [{ exLibSvc with methods := [exGet] }],
                                messages := [10, 11, 13, 14], enums := [20] }] := by
  simp -index only [exApi, exLib, exDep, exMsgs, exLibSvc, exOpsSvc, exGet, exOther, exInsert, exPoll, exWait, exListed, String.toList_ofList]
  decide +kernel

example : ((exLib.withInternal exListed).services.map fun s => (s.clientName, s.methods.map (·.clientMethodName)))
    = [("BaseLibClient".toList, ["Get".toList, "_Other".toList, "_Insert".toList]),
       ("BaseOpsClient".toList, ["_Poll".toList, "_Wait".toList])] := by
  simp -index only [exLib, exLibSvc, exOpsSvc, exGet, exOther, exInsert, exPoll, exWait, exListed, Method.clientMethodName, Service.clientName, isKeyword_eq, String.toList_ofList]
  decide +kernel
example : ((exLib.withInternal ["p.Lib.Get".toList, "p.Lib.Other".toList, "p.Lib.Insert".toList]).services.map (·.clientName))
    = ["LibClient".toList, "BaseOpsClient".toList] := by
  simp -index only [exLib, exLibSvc, exOpsSvc, exGet, exOther, exInsert, exPoll, exWait, Service.clientName, String.toList_ofList]
  decide +kernel
example : isKeyword "Import".toList = true ∧ isKeyword "Get".toList = false := by
  simp -index only [isKeyword_eq, String.toList_ofList]
  decide +kernel

example : validateSettings exApi.allMethods [⟨"p".toList, ["p.Lib.Nope".toList], false⟩]
    = [("p".toList, .selective [("p.Lib.Nope".toList, .missing)])] := by
  simp -index only [exApi, exLib, exDep, exMsgs, exLibSvc, exOpsSvc, exGet, exOther, exInsert, exPoll, exWait, String.toList_ofList]
  decide +kernel
example : validateSettings exApi.allMethods [⟨"q".toList, ["p.Lib.Get".toList], false⟩]
    = [("q".toList, .selective [("p.Lib.Get".toList, .mismatch)])] := by
  simp -index only [exApi, exLib, exDep, exMsgs, exLibSvc, exOpsSvc, exGet, exOther, exInsert, exPoll, exWait, String.toList_ofList]
  decide +kernel
example : validateSettings exApi.allMethods [⟨"p".toList, exListed, false⟩] = [] := by
  simp -index only [exApi, exLib, exDep, exMsgs, exLibSvc, exOpsSvc, exGet, exOther, exInsert, exPoll, exWait, exListed, String.toList_ofList]
  decide +kernel

/-! ## Where the real code violates the statement (the input is replayed on /repo by the check), and
the regression theorem for the defect that has been repaired -/

/-- A nested type can be kept while the message that declares it is pruned: `Outer.Inner` (11) and
the enum `Outer.Kind`-like 20 are on the allow-list of `Get`, their enclosing message `Outer` (12) is
not, and `Proto.messages` (top-level messages only) then has no class to hang them on — the emitted
`types` module refers to `Outer.Inner` without defining `Outer` (known finding
`nested-kept-parent-pruned`).  So "kept set is closed under `declared in`" is FALSE for the code
(`nested_kept_parent_pruned_counterexample`), and the kept nested declarations are not among the classes the `types` module
defines (this theorem: `Proto.emitted`). -/
theorem orphan_not_emitted_counterexample :
    ∃ p', pruneProto (allowlist exApi exListed) exLib = some p' ∧
      11 ∈ p'.messages ∧ 20 ∈ p'.enums ∧ 11 ∉ p'.emitted exApi ∧ 20 ∉ p'.emitted exApi ∧
      p'.emitted exApi = [10, 13, 14] := by
  have hem : Proto.emitted exApi
      { exLib with services := [{ exLibSvc with methods := [exGet] }], messages := [10, 11, 13, 14], enums := [20] } =
      [10, 13, 14] := by decide +kernel
  exact ⟨_, exApi_pruned, by decide +kernel, by decide +kernel, by rw [hem]; decide +kernel, by rw [hem]; decide +kernel, hem⟩

theorem nested_kept_parent_pruned_counterexample :
    ∃ (api : Api) (listed : List (List Char)) (parent : Message) (child : Addr),
      api.wf listed = true ∧ api.wfAddrs listed = true ∧ parent ∈ api.msgs ∧ child ∈ parent.nestedMsgs ∧
      child ∈ allowlist api listed ∧ parent.addr ∉ allowlist api listed :=
  ⟨exApi, exListed, ⟨12, [], [20, 21], [11]⟩, 11, exApi_wf.1.1, exApi_wf.1.2.1, by decide +kernel, by decide +kernel,
   by rw [exApi_allowlist]; decide +kernel, by rw [exApi_allowlist]; decide +kernel⟩

/-- Regression for the repaired defect `version-prefix-not-segment-aligned` (`fix:` a25ff42): a method
of package `a.v1beta` listed under the settings of version `a.v1` exists in the API and shares the
string prefix, and is nevertheless rejected as a version mismatch. -/
theorem version_prefix_rejected :
    validateSettings [['a','.','v','1','b','e','t','a','.','S','.','M']]
        [⟨['a','.','v','1'], [['a','.','v','1','b','e','t','a','.','S','.','M']], false⟩]
      = [(['a','.','v','1'], .selective [(['a','.','v','1','b','e','t','a','.','S','.','M'], .mismatch)])] := by
  decide +kernel

/-- In general: a listed method in whose name the version is not followed by a dot is rejected, even
if it exists and the version is a string prefix of it. -/
theorem version_must_end_a_segment (allMethods : List (List Char)) (version rest : List Char)
    (hrest : ∀ r, rest ≠ '.' :: r) :
    validateSettings allMethods [⟨version, [version ++ rest], false⟩] ≠ [] := by
  have hbad : BadMethod allMethods version (version ++ rest) := by
    refine .inr (Bool.eq_false_iff.mpr fun h => ?_)
    obtain ⟨t, ht⟩ := (List.prefix_append_right_inj version).mp (List.isPrefixOf_iff_prefix.mp h)
    exact hrest t ht.symm
  exact fun h => ((validateSettings_eq_nil_iff _ _).mp h).2 ⟨version, [version ++ rest], false⟩ (by simp) _ (by simp) hbad

end GapicModel.Props.C16
