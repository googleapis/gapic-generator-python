import GapicModel.Model.Flatten
import GapicModel.Lemmas.Tables
import GapicModel.Lemmas.Keyed
/-
C05 — flattened keyword arguments are equivalent to an explicit request object (DESIGN §7.5).

Statements are about the model `GapicModel.Model.Flatten` (tied to /repo by T2/T3 in harness/props/c05.py).
-/
namespace GapicModel.Props.C05
open GapicModel.Model.Flatten
open GapicModel.Model.Flatten.Val

/-- about `List.filter` alone; stated here for `pass_after` -/
theorem filter_or_perm {α} (d c : α → Bool) (l : List α) (h : ∀ b ∈ l, c b = true → d b = false) :
    (l.filter d ++ l.filter c).Perm (l.filter fun b => d b || c b) := by
  have := List.filter_append_perm d (l.filter fun b => d b || c b)
  rw [List.filter_filter, List.filter_filter] at this
  refine (List.Perm.of_eq ?_).trans this
  congr 1 <;> refine List.filter_congr fun b hb => ?_
  · cases d b <;> simp
  · cases hc : c b
    · cases d b <;> simp
    · simp [h b hb hc]

/-- the two paths part ways before either ends (neither is a prefix of the other) -/
def incomp : List Nat → List Nat → Bool
  | a :: p, b :: q => a != b || incomp p q
  | _, _ => false

def isListV : Val → Bool
  | .list _ => true
  | _ => false
def isMapV : Val → Bool
  | .map _ => true
  | _ => false

/-- a bound key the theorems speak about: a real path; `map` implies `repeated` (as in `Field.map`)
and excludes `struct_pb2.Value` (a map field's type is its entry message);
the argument has the kind of the field (list for repeated, dict for map, neither for singular);
an EMPTY list/dict is passed only for a top-level key (FORCED: see `falsy_dotted_counterexample`). -/
def good (b : Bound) : Bool :=
  !b.1.path.isEmpty && (!b.1.isMap || b.1.repeated) && (!b.1.isValue || !b.1.isMap) &&
  match b.2 with
  | none => true
  | some v =>
    (if b.1.isMap then isMapV v else if b.1.repeated then isListV v else !v.isEmptyContainer) &&
    (!v.isEmptyContainer || b.1.path.length == 1)

/-- no flattened key is a prefix of another one (FORCED: see `overlap_counterexample`);
`incomp_iff_not_prefix` relates `incomp` to `<+:` -/
def PrefixFree (bs : List Bound) : Prop := bs.Pairwise (fun a b => incomp a.1.path b.1.path = true)

/-- none of the keys has been written yet -/
def Unset (bs : List Bound) (r : Val) : Prop := ∀ b ∈ bs, slot b.1.path r = none

/-- the pb2-constructor keyword of a key is the key itself: a top-level field addressed by its own name -/
def ctorOk (b : Bound) : Bool :=
  match b.1.ctor, b.1.path with
  | some n, [k] => n == k
  | _, _ => false

/-- the statement's reading of "declared order": every key at the position of its FIRST occurrence -/
def firstSeen (seen : List String) : List String → List String
  | [] => []
  | k :: ks => if seen.contains k then firstSeen seen ks else k :: firstSeen (seen ++ [k]) ks

section Aux
theorem incomp_cons {a b : Nat} {p q : List Nat} : incomp (a :: p) (b :: q) = true ↔ a ≠ b ∨ incomp p q = true := by
  rw [incomp, Bool.or_eq_true, bne_iff_ne]

theorem incomp_symm (p q : List Nat) (h : incomp p q = true) : incomp q p = true := by
  fun_induction incomp p q with
  | case1 a p b q ih => exact incomp_cons.mpr ((incomp_cons.mp h).imp Ne.symm ih)
  | case2 => cases h

theorem incomp_iff_not_prefix : ∀ (p q : List Nat), incomp p q = true ↔ (¬ p <+: q ∧ ¬ q <+: p)
  | [], q => by simp [incomp]
  | a :: p, [] => by simp [incomp]
  | a :: p, b :: q => by
    rw [incomp_cons, incomp_iff_not_prefix p q, List.cons_prefix_cons, List.cons_prefix_cons]
    by_cases h : a = b
    · simp [h]
    · simp [h, Ne.symm h]

theorem good_slot {b : Bound} (hg : good b = true) :
    b.1.path ≠ [] ∧ (b.1.isMap = true → b.1.repeated = true) ∧ (b.1.isValue = true → b.1.isMap = false) := by
  simp only [good, Bool.and_eq_true, Bool.or_eq_true, Bool.not_eq_true', List.isEmpty_eq_false_iff] at hg
  exact ⟨hg.1.1.1, fun h => hg.1.1.2.resolve_left (by simp [h]), fun h => hg.1.2.resolve_left (by simp [h])⟩

theorem good_arg {s : Slot} {v : Val} (hg : good (s, some v) = true) :
    (if s.isMap then isMapV v else if s.repeated then isListV v else !v.isEmptyContainer) = true ∧
    (v.isEmptyContainer = true → s.path.length = 1) := by
  simp only [good, Bool.and_eq_true, Bool.or_eq_true, Bool.not_eq_true', beq_iff_eq] at hg
  exact ⟨hg.2.1, fun h => hg.2.2.resolve_left (by simp [h])⟩
end Aux

/-! ## 1. Parameters are offered in declared order -/

/-- the yielded entries follow the signature paths in order (some dropped for a dependency-package
request, none otherwise) -/
theorem yielded_in_order (sch : Schema) (cross : Bool) (input : MsgDef) (paths : List (List String))
    (es : List Entry) (h : yielded sch cross input paths = .ok es) :
    (es.map Entry.segs).Sublist paths ∧ (cross = false → es.map Entry.segs = paths) := by
  fun_induction yielded sch cross input paths generalizing es <;> cases h
  · simp
  · rename_i hrec hc ih
    exact ⟨(ih _ hrec).1.cons _, fun hcr => by simp [hcr] at hc⟩
  · rename_i hrec _ ih
    exact ⟨(ih _ hrec).1.cons_cons _, fun hcr => by simp [(ih _ hrec).2 hcr]⟩

section Aux
theorem yielded_mem (sch : Schema) (cross : Bool) (input : MsgDef) (paths : List (List String)) (es : List Entry)
    (h : yielded sch cross input paths = .ok es) :
    ∀ e ∈ es, getField sch input e.segs = .ok (e.pre, e.last) ∧ (cross = true → e.field.isPrimitive = true) := by
  fun_induction yielded sch cross input paths generalizing es <;> cases h
  · simp
  · rename_i hrec _ ih; exact ih _ hrec
  · rename_i hg _ hrec hc ih
    intro e he
    rcases List.mem_cons.mp he with rfl | he
    · exact ⟨hg, fun hx => by simpa [hx, Entry.field] using hc⟩
    · exact ih _ hrec e he

theorem odInsert_keys (d : List Entry) (e : Entry) :
    (odInsert d e).map Entry.key =
      if (d.map Entry.key).contains e.key then d.map Entry.key else d.map Entry.key ++ [e.key] := by
  have hany : d.any (·.key == e.key) = (d.map Entry.key).contains e.key := by
    rw [List.contains_eq_any_beq, List.any_map]
    exact congrArg _ (funext fun x => BEq.comm)
  rw [odInsert, hany]
  split
  · -- the entry put in place of another one has its key
    rw [List.map_map]
    refine List.map_congr_left fun x _ => ?_
    simp only [Function.comp]
    split
    · exact (beq_iff_eq.mp ‹_›).symm
    · rfl
  · exact List.map_append

theorem odInsert_fresh (d : List Entry) (e : Entry) (h : e.key ∉ d.map Entry.key) : odInsert d e = d ++ [e] := by
  rw [odInsert, if_neg]
  rw [List.any_eq_true]
  rintro ⟨x, hx, hk⟩
  exact h (List.mem_map.mpr ⟨x, hx, beq_iff_eq.mp hk⟩)

theorem odInsert_mem (d : List Entry) (e x : Entry) (h : x ∈ odInsert d e) : x ∈ d ∨ x = e := by
  rw [odInsert] at h
  split at h
  · obtain ⟨y, hy, rfl⟩ := List.mem_map.mp h
    split
    · exact .inr rfl
    · exact .inl hy
  · simpa using h

/-! `odBuild` is a fold from the empty mapping: its keys and its members, for a fold from any mapping `d` -/

theorem foldl_odInsert_keys (es d : List Entry) :
    (es.foldl odInsert d).map Entry.key = d.map Entry.key ++ firstSeen (d.map Entry.key) (es.map Entry.key) := by
  induction es generalizing d with
  | nil => simp [firstSeen]
  | cons e es ih =>
    simp only [List.foldl_cons, List.map_cons, firstSeen]
    rw [ih, odInsert_keys]
    split <;> simp

theorem foldl_odInsert_mem (es d : List Entry) (x : Entry) (h : x ∈ es.foldl odInsert d) : x ∈ d ∨ x ∈ es := by
  induction es generalizing d with
  | nil => exact .inl h
  | cons e es ih =>
    rcases ih (odInsert d e) h with h | h
    · exact (odInsert_mem d e x h).imp_right fun h : x = e => h ▸ List.mem_cons_self
    · exact .inr (List.mem_cons_of_mem _ h)
end Aux

/-- **The flattened parameters are the declared fields in declared order**: the keys of the mapping
are the keys yielded by the signatures, each at the position of its first occurrence (OrderedDict
semantics), whatever recurs later. -/
theorem params_in_declared_order (es : List Entry) :
    (odBuild es).map Entry.key = firstSeen [] (es.map Entry.key) := by
  simpa [odBuild] using foldl_odInsert_keys es []

theorem firstSeen_nodup (seen ks : List String) (hn : ks.Nodup) (hd : ∀ k ∈ ks, k ∉ seen) :
    firstSeen seen ks = ks := by
  induction ks generalizing seen with
  | nil => rfl
  | cons k ks ih =>
    obtain ⟨hk, hn⟩ := List.nodup_cons.mp hn
    rw [firstSeen, if_neg (by simpa using hd k List.mem_cons_self), ih _ hn]
    intro x hx hmem
    rcases List.mem_append.mp hmem with h | h
    · exact hd x (List.mem_cons_of_mem _ hx) h
    · exact hk (List.mem_singleton.mp h ▸ hx)

/-- with distinct keys the mapping IS the yielded list: same entries, same order, hence the emitted
parameter list is `self, request, <declared fields in order>, retry, timeout, metadata`. -/
theorem params_exactly_declared (es : List Entry) (hn : (es.map Entry.key).Nodup) :
    odBuild es = es ∧
    paramList (odBuild es) = ["self", "request"] ++ es.map Entry.param ++ ["retry", "timeout", "metadata"] := by
  have : odBuild es = es := by simpa [odBuild] using Keyed.foldl_eq_append Entry.key odInsert id odInsert_fresh es [] hn
  exact ⟨this, by rw [this]; rfl⟩

/-! ## 2. Both application schemes are plain field setting

Every loop of the two templates is a *pass* (`IsPass`): it skips the keys its guard rejects and the arguments left at `None`,
and on a slot not written yet its statement — `=`, `.extend`, `.update`, under `if x:` or not — stores the argument
(`stmt_eff`; `effStep` is that store in closed form).  Stores on diverging paths commute (`effStep_comm`), so passes whose
guards partition the keys amount to one fold of `effStep` in declared order (`pass_eq`, `pass_after`, `pass_last`); `setAll`
is the instance with a single pass. -/

section Aux
theorem lookup_ins (m : Val) (n j : Nat) (x : Val) : lookup (ins n x m) j = if j = n then some x else lookup m j := by
  fun_induction ins n x m <;> grind [lookup]

theorem lookup_erase (m : Val) (n j : Nat) : lookup (erase m n) j = if j = n then none else lookup m j := by
  fun_induction erase m n <;> grind [lookup]

theorem lookup_put (m : Val) (k j : Nat) (o : Option Val) : lookup (put m k o) j = if j = k then o else lookup m j := by
  cases o with
  | none => exact lookup_erase m k j
  | some v => exact lookup_ins m k j v

theorem erase_of_lookup_none (m : Val) (n : Nat) (h : lookup m n = none) : erase m n = m := by
  fun_induction erase m n <;> simp_all only [lookup, if_true, if_false, reduceCtorEq]

theorem ins_ins_same (m : Val) (n : Nat) (x y : Val) : ins n x (ins n y m) = ins n x m := by
  fun_induction ins n y m <;> simp only [ins, Nat.lt_irrefl, if_true, if_false, *]

theorem ins_ins_comm (m : Val) (a b : Nat) (x y : Val) (h : a ≠ b) :
    ins a x (ins b y m) = ins b y (ins a x m) := by
  fun_induction ins b y m <;> grind [ins]

theorem atPath_congr (p : List Nat) (f g : Option Val → Option Val) (s : Option Val)
    (h : f (lookupAt p s) = g (lookupAt p s)) : atPath p f s = atPath p g s := by
  induction p generalizing s with
  | nil => exact h
  | cons k rest ih => simp only [atPath]; rw [ih _ h]

/-- rewriting one slot leaves every slot on a diverging path alone -/
theorem lookupAt_atPath (p q : List Nat) (f : Option Val → Option Val) (s : Option Val)
    (h : incomp p q = true) : lookupAt p (atPath q f s) = lookupAt p s := by
  fun_induction incomp p q generalizing s with
  | case1 a p b q ih =>
    rw [atPath, lookupAt, lookupAt, asMsg, lookup_put]
    by_cases hab : a = b
    · subst hab
      rw [if_pos rfl]
      exact ih _ ((incomp_cons.mp h).resolve_left (· rfl))
    · rw [if_neg hab]
  | case2 => cases h

theorem slot_modifyAt (p q : List Nat) (f : Option Val → Option Val) (r : Val) (h : incomp p q = true) :
    slot p (modifyAt q f r) = slot p r := by
  cases q with
  | nil => cases p <;> cases h
  | cons b q => exact lookupAt_atPath p (b :: q) f (some r) h

theorem lookupAt_none : ∀ p : List Nat, lookupAt p none = none
  | [] => rfl
  | _ :: p => lookupAt_none p

theorem slot_mnil : ∀ p : List Nat, p ≠ [] → slot p .mnil = none
  | _ :: p, _ => lookupAt_none p

/-- put value `v` at path `p` of message `m` (the closed form of an assignment that stores something) -/
def setAt : List Nat → Val → Val → Val
  | [], v, _ => v
  | k :: rest, v, m => ins k (setAt rest v (asMsg (lookup m k))) m

theorem atPath_const (p : List Nat) (v : Val) (s : Option Val) :
    atPath p (fun _ => some v) s = some (setAt p v (asMsg s)) := by
  induction p generalizing s with
  | nil => rfl
  | cons k rest ih => simp only [atPath, setAt, ih, put]

theorem modifyAt_const (p : List Nat) (v r : Val) : modifyAt p (fun _ => some v) r = setAt p v r := by
  rw [modifyAt, atPath_const, asMsg, asMsg]

theorem setAt_comm (p q : List Nat) (x y m : Val) (h : incomp p q = true) :
    setAt p x (setAt q y m) = setAt q y (setAt p x m) := by
  fun_induction incomp p q generalizing m with
  | case1 a p b q ih =>
    rw [setAt, setAt, setAt, setAt, lookup_ins, lookup_ins]
    by_cases hab : a = b
    · subst hab
      rw [if_pos rfl, if_pos rfl, ins_ins_same, ins_ins_same, asMsg, asMsg, ih _ ((incomp_cons.mp h).resolve_left (· rfl))]
    · rw [if_neg hab, if_neg (Ne.symm hab), ins_ins_comm _ _ _ _ _ hab]
  | case2 => cases h

/-- closed form of one step: store the value unless it is absent or an empty container -/
def effStep (r : Val) (b : Bound) : Val :=
  match b.2 with
  | none => r
  | some v => if v.isEmptyContainer then r else setAt b.1.path v r

/-! ### the statements of the templates, on a slot not written yet, given an argument of the field's kind -/

/-- on a slot not written yet a statement does what it does to `None`; each statement of the templates stores the
argument there (`norm`: an empty list / dict clears the field) -/
theorem stmt_eff (r : Val) (s : Slot) (v : Val) (op : Option Val → Option Val) (h0 : op none = norm v)
    (hg : good (s, some v) = true) (hs : slot s.path r = none) : modifyAt s.path op r = effStep r (s, some v) := by
  rw [modifyAt, atPath_congr s.path op (fun _ => norm v) (some r) (by rw [show lookupAt _ _ = none from hs, h0])]
  simp only [effStep, norm]
  cases hv : v.isEmptyContainer with
  | false => simp [atPath_const, asMsg]
  | true =>
    -- an empty list/dict comes with a top-level key only: assigning it clears a field that is not there
    match hp : s.path, (good_arg hg).2 hv with
    | [k], _ =>
      rw [hp] at hs
      simp [atPath, asMsg, put, erase_of_lookup_none r k hs]

theorem extend_eff (r : Val) (s : Slot) (v : Val) (hg : good (s, some v) = true) (hs : slot s.path r = none)
    (hr : s.repeated = true) (hm : s.isMap = false) : modifyAt s.path (extendOp v) r = effStep r (s, some v) := by
  have hl : isListV v = true := by simpa [hm, hr] using (good_arg hg).1
  refine stmt_eff r s v _ ?_ hg hs
  cases v <;> first | rfl | cases hl

theorem update_eff (r : Val) (s : Slot) (v : Val) (hg : good (s, some v) = true) (hs : slot s.path r = none)
    (hm : s.isMap = true) : modifyAt s.path (updateOp v) r = effStep r (s, some v) := by
  have hl : isMapV v = true := by simpa [hm] using (good_arg hg).1
  refine stmt_eff r s v _ ?_ hg hs
  cases v <;> first | rfl | cases hl

/-- the same statements under `if x:`: an empty list/dict is skipped, and stores nothing when assigned -/
theorem truthy_eff (r : Val) (s : Slot) (v : Val) (x : Val) (h : truthy (some v) = true → x = effStep r (s, some v)) :
    (if truthy (some v) then x else r) = effStep r (s, some v) := by
  split
  · exact h ‹_›
  · rename_i hf; simp_all [truthy, effStep]

theorem effStep_slot (r : Val) (b c : Bound) (h : incomp c.1.path b.1.path = true) :
    slot c.1.path (effStep r b) = slot c.1.path r := by
  unfold effStep
  split
  · rfl
  · split
    · rfl
    · rw [← modifyAt_const, slot_modifyAt _ _ _ _ h]

theorem unset_foldl_eff (l l' : List Bound) (r : Val)
    (hx : ∀ a ∈ l, ∀ c ∈ l', incomp c.1.path a.1.path = true) (hu : Unset l' r) :
    Unset l' (l.foldl effStep r) := by
  induction l generalizing r with
  | nil => exact hu
  | cons a l ih =>
    refine ih _ (fun a' ha' => hx a' (List.mem_cons_of_mem _ ha')) fun c hc => ?_
    rw [effStep_slot r a c (hx a List.mem_cons_self c hc)]
    exact hu c hc

theorem effStep_comm (r : Val) (a b : Bound) (h : incomp a.1.path b.1.path = true) :
    effStep (effStep r a) b = effStep (effStep r b) a := by
  unfold effStep
  cases a.2 <;> cases b.2 <;> simp only []
  rename_i x y
  by_cases hx : x.isEmptyContainer = true <;> by_cases hy : y.isEmptyContainer = true <;>
    simp only [hx, hy, if_true, Bool.false_eq_true, if_false]
  rw [setAt_comm _ _ _ _ _ (incomp_symm _ _ h)]

theorem foldl_eff_perm {l l' : List Bound} (hp : l.Perm l') (hpf : PrefixFree l) (r : Val) :
    l.foldl effStep r = l'.foldl effStep r :=
  hp.foldl_eq' (List.Pairwise.forall_of_forall_of_flip (R := fun a b => ∀ z, effStep (effStep z a) b = effStep (effStep z b) a)
    (fun _ _ _ => rfl) (hpf.imp fun h z => effStep_comm z _ _ h) (hpf.imp fun h z => (effStep_comm z _ _ h).symm)) r

/-- `L` is one pass of a template over the keys `c` selects: it skips the other keys and the arguments left at `None`, and
applies a key of `c` by a statement that, on a slot not written yet, stores the argument -/
def IsPass (L : Val → Bound → Val) (c : Bound → Bool) : Prop :=
  ∀ r b, (c b = false → L r b = r) ∧ (b.2 = none → L r b = r) ∧
    (c b = true → good b = true → slot b.1.path r = none → L r b = effStep r b)

/-- the shape all loops of the templates have: `for key … if <c>: if key is not None: <body>`.  `body` is applied to the
whole key, so that it is a pattern and unification reads it off the loop of the model -/
theorem isPass_of_body (c : Bound → Bool) (body : Val → Bound → Val → Val)
    (h : ∀ r s v, c (s, some v) = true → good (s, some v) = true → slot s.path r = none →
      body r (s, some v) v = effStep r (s, some v)) :
    IsPass (fun r b => if c b then (match b.2 with | none => r | some v => body r b v) else r) c := by
  intro r ⟨s, a⟩
  dsimp only
  refine ⟨fun hc => if_neg (by simp [hc]), fun ha => ?_, fun hc hg hs => ?_⟩
  · cases ha; split <;> rfl
  · rw [if_pos hc]
    cases a with
    | none => rfl
    | some v => exact h r s v hc hg hs

theorem pass_idle {L c} (hL : IsPass L c) (l : List Bound) (r : Val) (h : ∀ b ∈ l, c b = false ∨ b.2 = none) :
    l.foldl L r = r := by
  induction l with
  | nil => rfl
  | cons b l ih =>
    rw [List.foldl_cons, (h b (by simp)).elim (hL r b).1 (hL r b).2.1, ih fun c hc => h c (by simp [hc])]

theorem pass_eq {L c} (hL : IsPass L c) (l : List Bound) (r : Val)
    (hg : ∀ b ∈ l, good b = true) (hpf : PrefixFree l) (hu : Unset (l.filter c) r) :
    l.foldl L r = (l.filter c).foldl effStep r := by
  induction l generalizing r with
  | nil => rfl
  | cons b l ih =>
    have hpf' := List.pairwise_cons.mp hpf
    have hg' : ∀ c ∈ l, good c = true := fun c hc => hg c (by simp [hc])
    simp only [List.foldl_cons, List.filter_cons]
    cases hc : c b with
    | false =>
      rw [(hL r b).1 hc]
      exact ih r hg' hpf'.2 (by simpa [List.filter_cons, hc] using hu)
    | true =>
      simp only [List.filter_cons, hc, if_true] at hu
      rw [(hL r b).2.2 hc (hg b (by simp)) (hu b (by simp)), if_pos rfl, List.foldl_cons]
      refine ih _ hg' hpf'.2 fun x hx => ?_
      rw [effStep_slot r b x (incomp_symm _ _ (hpf'.1 x (List.mem_filter.mp hx).1))]
      exact hu x (by simp [hx])

/-- one more pass: the keys `d` are done, the pass applies keys `c` none of which is done -/
theorem pass_after {L c} (hL : IsPass L c) (d : Bound → Bool) (l : List Bound) (r : Val)
    (hg : ∀ b ∈ l, good b = true) (hpf : PrefixFree l) (hu : Unset l r)
    (hdisj : ∀ b ∈ l, c b = true → d b = false) :
    l.foldl L ((l.filter d).foldl effStep r) = (l.filter fun b => d b || c b).foldl effStep r := by
  have hperm := filter_or_perm d c l hdisj
  have hpf2 : PrefixFree (l.filter d ++ l.filter c) :=
    (hperm.pairwise_iff fun {_ _} h => incomp_symm _ _ h).mpr (hpf.sublist List.filter_sublist)
  rw [pass_eq hL l _ hg hpf, ← List.foldl_append, foldl_eff_perm hperm hpf2]
  apply unset_foldl_eff
  · intro a ha x hx
    exact incomp_symm _ _ ((List.pairwise_append.mp hpf2).2.2 a ha x hx)
  · exact fun b hb => hu b (List.mem_filter.mp hb).1

/-- the last pass: its keys are those the earlier passes left -/
theorem pass_last {L c} (hL : IsPass L c) (d : Bound → Bool) (l : List Bound) (r : Val)
    (hg : ∀ b ∈ l, good b = true) (hpf : PrefixFree l) (hu : Unset l r) (hcd : ∀ b ∈ l, c b = !d b) :
    l.foldl L ((l.filter d).foldl effStep r) = l.foldl effStep r := by
  rw [pass_after hL d l r hg hpf hu fun b hb h => by simpa [hcd b hb] using h,
    List.filter_eq_self.mpr fun b hb => by rw [hcd b hb, Bool.or_not_self]]

theorem refStep_isPass : IsPass refStep fun _ => true :=
  isPass_of_body _ _ fun r s v _ => stmt_eff r s v _ rfl

theorem syncLoop1_isPass (sp : Bool) : IsPass (syncLoop1 sp) fun b => !b.1.repeated || (sp && !b.1.rawOwner) :=
  isPass_of_body _ _ fun r s v _ hg hs => by
    split
    · rename_i hvr
      rw [Bool.and_eq_true] at hvr
      exact extend_eff r s v hg hs hvr.2 ((good_slot hg).2.2 hvr.1)
    · exact stmt_eff r s v _ rfl hg hs

theorem syncLoop2_isPass (sp : Bool) : IsPass (syncLoop2 sp) fun b => b.1.repeated && (!sp || b.1.rawOwner) :=
  isPass_of_body _ _ fun r s v hc hg hs => truthy_eff r s v _ fun _ => by
    split
    · exact update_eff r s v hg hs ‹_›
    · exact extend_eff r s v hg hs (Bool.and_eq_true _ _ ▸ hc).1 (Bool.eq_false_iff.mpr ‹_›)

theorem asyncLoop1_isPass : IsPass asyncLoop1 fun b => !b.1.repeated :=
  isPass_of_body _ _ fun r s v _ => stmt_eff r s v _ rfl

theorem asyncLoop2_isPass : IsPass asyncLoop2 fun b => b.1.isMap :=
  isPass_of_body _ _ fun r s v hc hg hs => truthy_eff r s v _ fun _ => update_eff r s v hg hs hc

theorem asyncLoop3_isPass : IsPass asyncLoop3 fun b => b.1.repeated && !b.1.isMap :=
  isPass_of_body _ _ fun r s v hc hg hs => truthy_eff r s v _ fun _ => by
    have hc := (Bool.and_eq_true _ _ ▸ hc : s.repeated = true ∧ (!s.isMap) = true)
    exact extend_eff r s v hg hs hc.1 (by simpa using hc.2)

theorem unset_filter {l : List Bound} {r : Val} (hu : Unset l r) (c : Bound → Bool) : Unset (l.filter c) r :=
  fun b hb => hu b (List.mem_filter.mp hb).1

theorem setAll_eq_eff (bs : List Bound) (r : Val)
    (hg : ∀ b ∈ bs, good b = true) (hpf : PrefixFree bs) (hu : Unset bs r) : setAll bs r = bs.foldl effStep r := by
  rw [setAll, pass_eq refStep_isPass bs r hg hpf (unset_filter hu _), List.filter_eq_self.mpr fun _ _ => rfl]

end Aux

/-- **every flattened key is applied by exactly one pass of the sync macro**, whatever the package
situation and the owner: the guard of the extend/update pass is the negation of the guard of the
assignment pass.  (A repeated key of a request in a DIFFERENT package whose types are nevertheless
proto-plus — a sub-package of the API, or a `proto-plus-deps` package — is taken by the second pass
through `<different package>`, not through the owner test.) -/
theorem sync_passes_partition (samePkg : Bool) (b : Bound) :
    (b.1.repeated && (!samePkg || b.1.rawOwner)) = !(!b.1.repeated || (samePkg && !b.1.rawOwner)) := by
  cases b.1.repeated <;> cases samePkg <;> cases b.1.rawOwner <;> rfl

/-- **The sync macro computes the request with the fields set** (same-package and cross-package
branch alike), for keys none of which is a prefix of another, arguments of the field's kind, an
empty list/dict only for a top-level key, on a request none of whose keys is set yet. -/
theorem apply_sync_eq_set (samePkg : Bool) (bs : List Bound) (r : Val)
    (hg : ∀ b ∈ bs, good b = true) (hpf : PrefixFree bs) (hu : Unset bs r) :
    applySync samePkg bs r = setAll bs r := by
  rw [setAll_eq_eff bs r hg hpf hu, applySync, pass_eq (syncLoop1_isPass samePkg) bs r hg hpf (unset_filter hu _),
    pass_last (syncLoop2_isPass samePkg) _ bs r hg hpf hu fun b _ => sync_passes_partition samePkg b]

/-- the sync macro of a same-package request without repeated `struct_pb2.Value` keys and without
repeated keys owned by a raw protobuf message (the two cases that are extended, not assigned) is plain
assignment in declared order UNCONDITIONALLY (any base request, overlapping keys, any values). -/
theorem apply_sync_eq_set_unconditional (bs : List Bound) (r : Val)
    (hv : ∀ b ∈ bs, (b.1.isValue && b.1.repeated) = false ∧ (b.1.repeated && b.1.rawOwner) = false) :
    applySync true bs r = setAll bs r := by
  rw [applySync, setAll, pass_idle (syncLoop2_isPass true) bs _ fun b hb => .inl (by simpa using (hv b hb).2)]
  -- the first pass assigns every key: key by key it is `refStep`
  refine List.foldl_rel (r := Eq) rfl fun b hb r _ h => h ▸ ?_
  obtain ⟨h1, h2⟩ := hv b hb
  have hc : (!b.1.repeated || (true && !b.1.rawOwner)) = true := by
    revert h2; cases b.1.repeated <;> cases b.1.rawOwner <;> decide
  rw [syncLoop1, if_pos hc, h1, refStep]
  rfl

/-- **The asyncio template (three passes: singular, maps, lists) computes the same request.** -/
theorem apply_async_eq_set (bs : List Bound) (r : Val)
    (hg : ∀ b ∈ bs, good b = true) (hpf : PrefixFree bs) (hu : Unset bs r) :
    applyAsyncSame bs r = setAll bs r := by
  rw [setAll_eq_eff bs r hg hpf hu, applyAsyncSame, pass_eq asyncLoop1_isPass bs r hg hpf (unset_filter hu _),
    pass_after asyncLoop2_isPass _ bs r hg hpf hu fun b hb h => by simp [(good_slot (hg b hb)).2.1 h],
    pass_last asyncLoop3_isPass _ bs r hg hpf hu fun b _ => by cases b.1.repeated <;> cases b.1.isMap <;> rfl]

/-! ### the asyncio constructor call, characterised completely -/

/-- the key as the constructor sees it: the TOP-LEVEL field named like the terminal field -/
def retarget (b : Bound) : Bound :=
  match b.1.ctor with
  | some n => ({ b.1 with path := [n] }, b.2)
  | none => b

section Aux
/-- one keyword of the constructor call is an assignment to the retargeted key -/
theorem ctorStep_eq (r : Val) (b : Bound) :
    ctorStep r b = if b.1.ctor.isSome then .ok (refStep r (retarget b)) else .error .ctorUnknownField := by
  unfold ctorStep retarget refStep
  cases b.1.ctor <;> cases b.2 <;> rfl

theorem retarget_of_ctorOk (b : Bound) (h : ctorOk b = true) : b.1.ctor.isSome = true ∧ retarget b = b := by
  obtain ⟨⟨p, _, _, _, c, _, _, _⟩, a⟩ := b
  match c, p, h with
  | some n, [k], h => cases beq_iff_eq.mp h; exact ⟨rfl, rfl⟩
end Aux

/-- **The asyncio client of a cross-package request** (`Request(f=f, …)`) raises ValueError iff some key's
terminal name is not a top-level field of the request — given or not —, and otherwise sets, for every given key,
the top-level field of that NAME: the right field when the key is top-level (`apply_async_cross_eq_set`), a
different one when the key is dotted and the request happens to have a top-level field of the same name
(`async_cross_misroute_counterexample`). -/
theorem apply_async_cross_char (bs : List Bound) (r : Val) :
    applyAsyncCross bs r =
      if bs.all (fun b => b.1.ctor.isSome) then .ok (setAll (bs.map retarget) r) else .error .ctorUnknownField := by
  induction bs generalizing r with
  | nil => rfl
  | cons b bs ih =>
    rw [applyAsyncCross, ctorStep_eq, List.all_cons, List.map_cons]
    cases b.1.ctor.isSome
    · rfl
    · exact ih _

/-- the asyncio template for a dependency-package request (`Request(f=f, …)`) computes the same
request when every key is a top-level field addressed by its own name — and only then, see
`async_cross_dotted_counterexample`. -/
theorem apply_async_cross_eq_set (bs : List Bound) (r : Val) (h : ∀ b ∈ bs, ctorOk b = true) :
    applyAsyncCross bs r = .ok (setAll bs r) := by
  rw [apply_async_cross_char, if_pos (List.all_eq_true.mpr fun b hb => (retarget_of_ctorOk b (h b hb)).1),
    List.map_congr_left fun b hb => (retarget_of_ctorOk b (h b hb)).2, List.map_id']

/-! ## 3. The call -/

section Aux
theorem noargs_iff (bs : List Bound) : hasFlattened bs = false ↔ ∀ b ∈ bs, b.2 = none := by
  simp only [hasFlattened, List.any_eq_false, given, Option.not_isSome_iff_eq_none]

theorem noargs_map (bs : List Bound) : hasFlattened (bs.map fun b => (b.1, none)) = false := by
  simp [hasFlattened, given]

theorem applySync_noargs (sp : Bool) (bs : List Bound) (r : Val) (h : ∀ b ∈ bs, b.2 = none) :
    applySync sp bs r = r := by
  rw [applySync, pass_idle (syncLoop1_isPass sp) bs r fun b hb => .inr (h b hb),
    pass_idle (syncLoop2_isPass sp) bs r fun b hb => .inr (h b hb)]

theorem applyAsyncSame_noargs (bs : List Bound) (r : Val) (h : ∀ b ∈ bs, b.2 = none) :
    applyAsyncSame bs r = r := by
  have h' : ∀ c : Bound → Bool, ∀ b ∈ bs, c b = false ∨ b.2 = none := fun _ b hb => .inr (h b hb)
  rw [applyAsyncSame, pass_idle asyncLoop1_isPass bs r (h' _), pass_idle asyncLoop2_isPass bs r (h' _),
    pass_idle asyncLoop3_isPass bs r (h' _)]

/-- the first check of the emitted method -/
theorem call_mixed {samePkg asy : Bool} {req : ReqArg} {bs : List Bound} (h : (req.isGiven && hasFlattened bs) = true) :
    call samePkg asy req bs = .error .valueError := by
  rw [call.eq_def, if_pos h]

/-- the statements protobuf or proto-plus refuse, when the first check has passed -/
theorem call_attr {samePkg asy : Bool} {req : ReqArg} {bs : List Bound} (hm : (req.isGiven && hasFlattened bs) = false)
    (h : (samePkg = true ∧ bs.any (rawAssignFails asy) = true) ∨
      (appliesByAttr samePkg asy = true ∧ bs.any marshalFails = true)) :
    call samePkg asy req bs = .error .attributeError := by
  rw [call.eq_def, if_neg (Bool.eq_false_iff.mp hm)]
  rcases h with ⟨rfl, h⟩ | ⟨h1, h2⟩
  · rw [h]; rfl
  · rw [h1, h2]; split <;> rfl

/-- a call that passes a request and no flattened argument sends that request, whatever it is -/
theorem call_request_only (samePkg asy : Bool) (r : Val) (bs : List Bound) (h : hasFlattened bs = false) :
    call samePkg asy (.inst r) bs = .ok r ∧ call samePkg asy (.dict r) bs = .ok r := by
  have hn := (noargs_iff bs).mp h
  have hr : bs.any (rawAssignFails asy) = false :=
    List.any_eq_false.mpr fun b hb => by simp [rawAssignFails, given, hn b hb]
  have hm : bs.any marshalFails = false := List.any_eq_false.mpr fun b hb => by
    simp [marshalFails, given, truthy, hn b hb]
  unfold call
  rw [h, hr, hm]
  simp only [Bool.and_false, Bool.false_eq_true, if_false]
  cases samePkg <;> cases asy <;> simp only [applySync_noargs _ _ _ hn, applyAsyncSame_noargs _ _ hn, and_self]

/-- a call that passes flattened arguments only, and passes the checks of its branch, sends the request with those
fields set -/
theorem call_kwargs_only (samePkg asy : Bool) (bs : List Bound)
    (hg : ∀ b ∈ bs, good b = true) (hpf : PrefixFree bs)
    (hraw : samePkg = true → bs.any (rawAssignFails asy) = false)
    (hmar : appliesByAttr samePkg asy = true → bs.any marshalFails = false)
    (hc : samePkg = false → asy = true → ∀ b ∈ bs, ctorOk b = true) :
    call samePkg asy .none bs = .ok (setAll bs .mnil) := by
  have hu : Unset bs .mnil := fun b hb => slot_mnil _ (good_slot (hg b hb)).1
  rw [call.eq_def, if_neg nofun, Bool.and_eq_false_imp.mpr hraw, Bool.and_eq_false_imp.mpr hmar, if_neg nofun, if_neg nofun]
  cases samePkg <;> cases asy
  · exact congrArg _ (apply_sync_eq_set false bs .mnil hg hpf hu)
  · exact apply_async_cross_eq_set bs .mnil (hc rfl rfl)
  · exact congrArg _ (apply_sync_eq_set true bs .mnil hg hpf hu)
  · exact congrArg _ (apply_async_eq_set bs .mnil hg hpf hu)

theorem applyAsyncCross_error {bs : List Bound} {r : Val} {e : CallErr} (h : applyAsyncCross bs r = .error e) :
    e = .ctorUnknownField := by
  rw [apply_async_cross_char] at h
  split at h <;> cases h
  rfl

/-- which exception a failing call raises: the three checks in the order of the emitted code, then the pb2 constructor -/
theorem call_error {samePkg asy : Bool} {req : ReqArg} {bs : List Bound} {e : CallErr}
    (h : call samePkg asy req bs = .error e) :
    e = if (req.isGiven && hasFlattened bs) = true then .valueError
        else if (samePkg && bs.any (rawAssignFails asy) || appliesByAttr samePkg asy && bs.any marshalFails) = true
          then .attributeError else .ctorUnknownField := by
  by_cases hm : (req.isGiven && hasFlattened bs) = true
  · rw [if_pos hm]; exact Except.error.inj (h.symm.trans (call_mixed hm))
  · rw [if_neg hm]
    by_cases ha : (samePkg && bs.any (rawAssignFails asy) || appliesByAttr samePkg asy && bs.any marshalFails) = true
    · rw [if_pos ha]
      exact Except.error.inj (h.symm.trans (call_attr (Bool.eq_false_iff.mpr hm)
        (by simpa only [Bool.or_eq_true, Bool.and_eq_true] using ha)))
    · -- every check passed: of the ten branches only the pb2 constructor can raise
      rw [if_neg ha]
      rw [Bool.or_eq_true, not_or] at ha
      rw [call.eq_def, if_neg hm, if_neg ha.1, if_neg ha.2] at h
      cases samePkg <;> cases asy <;> cases req <;> first | cases h | exact applyAsyncCross_error h
end Aux

/-- **Supplying both a request and any flattened argument raises ValueError** — for every request
form, every client, every package situation, also when the argument is falsy (`""`, `0`, `[]`). -/
theorem mixed_call_rejected (samePkg asy : Bool) (req : ReqArg) (bs : List Bound)
    (hr : req.isGiven = true) (hk : ∃ b ∈ bs, b.2 ≠ none) :
    call samePkg asy req bs = .error .valueError := by
  obtain ⟨b, hb, hne⟩ := hk
  refine call_mixed (Bool.and_eq_true _ _ ▸ ⟨hr, ?_⟩)
  exact (Bool.not_eq_false _).mp fun hf => hne ((noargs_iff bs).mp hf b hb)

/-- … **before anything is sent**: the transport sees no request at all. -/
theorem rejected_before_send (samePkg asy : Bool) (req : ReqArg) (bs : List Bound)
    (hr : req.isGiven = true) (hk : ∃ b ∈ bs, b.2 ≠ none) :
    sent samePkg asy req bs = [] := by
  simp [sent, mixed_call_rejected samePkg asy req bs hr hk]

/-- and ValueError for the exclusion reason is raised ONLY then. -/
theorem value_error_iff_mixed (samePkg asy : Bool) (req : ReqArg) (bs : List Bound) :
    call samePkg asy req bs = .error .valueError ↔ (req.isGiven = true ∧ hasFlattened bs = true) := by
  rw [← Bool.and_eq_true]
  refine ⟨fun h => ?_, call_mixed⟩
  have := call_error h
  split at this
  · assumption
  · split at this <;> cases this

/-- **AttributeError is raised exactly when** the call is not mixed and some GIVEN key either ends in a field
owned by a raw protobuf message that protobuf refuses to assign, in a request of the service's own package
(`rawAssignFails`: a singular message field, in both clients; repeated/map fields are extended / updated since
`fix:` 9d33fc0), or runs INTO a marshalled well-known type (`marshalFails`: `ttl.seconds`) in a client that
applies keys by attribute (`appliesByAttr`: every client but the asyncio one of a cross-package request). -/
theorem attribute_error_iff (samePkg asy : Bool) (req : ReqArg) (bs : List Bound) :
    call samePkg asy req bs = .error .attributeError ↔
      ((req.isGiven && hasFlattened bs) = false ∧
       ((samePkg = true ∧ bs.any (rawAssignFails asy) = true) ∨
        (appliesByAttr samePkg asy = true ∧ bs.any marshalFails = true))) := by
  refine ⟨fun h => ?_, fun ⟨h1, h2⟩ => call_attr h1 h2⟩
  have := call_error h
  split at this
  · cases this
  · split at this
    · rename_i hm hc
      exact ⟨Bool.eq_false_iff.mpr hm, by simpa only [Bool.or_eq_true, Bool.and_eq_true] using hc⟩
    · cases this

/-- **kwargs call ≡ request call** (same package, both clients): calling with flattened arguments
sends exactly what is sent when the caller builds the request by setting those fields and passes
it as `request` (object or dict) — provided no given key runs into protobuf's assignment rules for
raw sub-messages (`rawAssignFails`; FORCED, see `raw_owner_message_counterexample`). -/
theorem kwargs_equiv_request (asy : Bool) (bs : List Bound)
    (hg : ∀ b ∈ bs, good b = true) (hpf : PrefixFree bs) (hraw : bs.any (rawAssignFails asy) = false)
    (hmar : bs.any marshalFails = false) :
    call true asy .none bs = .ok (setAll bs .mnil) ∧
    call true asy (.inst (setAll bs .mnil)) (bs.map fun b => (b.1, none)) = .ok (setAll bs .mnil) ∧
    call true asy (.dict (setAll bs .mnil)) (bs.map fun b => (b.1, none)) = .ok (setAll bs .mnil) :=
  ⟨call_kwargs_only true asy bs hg hpf (fun _ => hraw) (fun _ => hmar) nofun,
   call_request_only true asy _ _ (noargs_map bs)⟩

/-- the same for a dependency-package request (sync: two passes; asyncio: the pb2 constructor). -/
theorem kwargs_equiv_request_cross (asy : Bool) (bs : List Bound)
    (hg : ∀ b ∈ bs, good b = true) (hpf : PrefixFree bs) (hc : asy = true → ∀ b ∈ bs, ctorOk b = true)
    (hmar : asy = false → bs.any marshalFails = false) :
    call false asy .none bs = .ok (setAll bs .mnil) ∧
    call false asy (.inst (setAll bs .mnil)) (bs.map fun b => (b.1, none)) = .ok (setAll bs .mnil) :=
  ⟨call_kwargs_only false asy bs hg hpf nofun (fun h => hmar (by cases asy <;> first | rfl | cases h)) (fun _ => hc),
   (call_request_only false asy _ _ (noargs_map bs)).1⟩

section Aux
/-- the two clients agree whatever the owners are: a key protobuf refuses to assign is refused by both -/
theorem sync_async_same (samePkg : Bool) (req : ReqArg) (bs : List Bound)
    (hg : ∀ b ∈ bs, good b = true) (hpf : PrefixFree bs)
    (hc : samePkg = false → ∀ b ∈ bs, ctorOk b = true)
    (hmar : samePkg = false → bs.any marshalFails = false) :
    call samePkg false req bs = call samePkg true req bs := by
  cases req with
  | none =>
    by_cases hw : samePkg = true ∧ (bs.any (rawAssignFails false) = true ∨ bs.any marshalFails = true)
    · -- a key protobuf or proto-plus refuses, in a same-package request: both clients raise
      obtain ⟨rfl, hw⟩ := hw
      have : ∀ asy, call true asy .none bs = .error .attributeError := fun asy =>
        call_attr rfl (hw.imp (fun h => ⟨rfl, h⟩) fun h => ⟨rfl, h⟩)
      rw [this, this]
    · have hraw : samePkg = true → bs.any (rawAssignFails false) = false :=
        fun h => Bool.eq_false_iff.mpr fun h' => hw ⟨h, .inl h'⟩
      have hmar : bs.any marshalFails = false := by
        cases samePkg
        · exact hmar rfl
        · exact Bool.eq_false_iff.mpr fun h' => hw ⟨rfl, .inr h'⟩
      rw [call_kwargs_only samePkg false bs hg hpf hraw (fun _ => hmar) nofun,
          call_kwargs_only samePkg true bs hg hpf hraw (fun _ => hmar) (fun h _ => hc h)]
  | inst r | dict r =>
    cases hf : hasFlattened bs
    · simp only [call_request_only samePkg _ r bs hf]
    · rw [call_mixed (by rw [hf]; rfl), call_mixed (by rw [hf]; rfl)]
end Aux

/-- **Sync and asyncio clients behave identically**: same request or same exception, for every form
of `request` and every argument list within the hypotheses (the raw-assignment hypothesis is stated
for the sync client; since `fix:` 9d33fc0 the two clients refuse exactly the same keys). -/
theorem sync_async_agree (samePkg : Bool) (req : ReqArg) (bs : List Bound)
    (hg : ∀ b ∈ bs, good b = true) (hpf : PrefixFree bs)
    (hc : samePkg = false → ∀ b ∈ bs, ctorOk b = true)
    (hraw : samePkg = true → bs.any (rawAssignFails false) = false)
    (hmar : samePkg = false → bs.any marshalFails = false) :
    call samePkg false req bs = call samePkg true req bs :=
  sync_async_same samePkg req bs hg hpf hc hmar

/-- what the sync client may assign to a raw sub-message, the asyncio client may too (since `fix:`
9d33fc0 also conversely: `rawAssignFails` no longer depends on the client). -/
theorem async_raw_ok_of_sync (bs : List Bound) (h : bs.any (rawAssignFails false) = false) :
    bs.any (rawAssignFails true) = false := h

/-! ## 4. The rendered attribute path -/

section Aux
/-- a rendered segment is never a keyword: `segKey` is the renaming of Lemmas/Tables.lean, one underscore on a reserved word -/
theorem segKey_not_keyword (s : String) : pyKeyword (segKey s) = false := Tables.suffix_reserved_not_keyword s

theorem keySegs_not_keyword (e : Entry) : ∀ a ∈ e.keySegs, pyKeyword a = false := fun a ha => by
  obtain ⟨s, _, rfl⟩ := List.mem_map.mp ha
  exact segKey_not_keyword s

theorem resolve_of_getField (sch : Schema) (segs : List String) (m : MsgDef) (pre : List Link) (last : Link)
    (h : getField sch m segs = .ok (pre, last)) :
    resolveAttrs sch m (segs.map segKey) = some ((pre ++ [last]).map (·.field)) := by
  fun_induction getField sch m segs generalizing pre last <;> cases h
  · rename_i hf
    rw [List.map_cons, List.map_nil, resolveAttrs, attrResolves, hf]; rfl
  · rename_i hrec ih
    rw [List.map_cons, List.map_cons, resolveAttrs, attrResolves]
    simp only [*]
    rw [← List.map_cons, ih _ _ hrec]; rfl
end Aux

/-- **Every rendered `request.<key>` is a legal attribute path that resolves to the very fields
`get_field` found** — for EVERY signature path `get_field` accepts, reserved words and keywords in
any position included (since the `fix:` commit a0434d5 every reserved segment is suffixed; before it
this needed "no reserved word before the last segment", DESIGN §9-F2). -/
theorem key_attr_resolves (sch : Schema) (input : MsgDef) (segs : List String) (pre : List Link) (last : Link)
    (h : getField sch input segs = .ok (pre, last)) :
    (∀ a ∈ (⟨segs, pre, last⟩ : Entry).keySegs, pyKeyword a = false) ∧
    resolveAttrs sch input (⟨segs, pre, last⟩ : Entry).keySegs = some ((⟨segs, pre, last⟩ : Entry).links.map (·.field)) :=
  ⟨keySegs_not_keyword _, resolve_of_getField sch segs input pre last h⟩

/-- hence the emitted module never fails on a keyword used as an attribute name: `emitCheck` can only
object to a duplicated parameter name. -/
theorem emit_never_keyword_attr (es : List Entry) (k : String) : emitCheck es ≠ .error (.keywordAttr k) := by
  rw [emitCheck, List.find?_eq_none.mpr fun e _ h => by
    obtain ⟨a, ha, hk⟩ := List.any_eq_true.mp h
    exact Bool.false_ne_true ((keySegs_not_keyword e a ha).symm.trans hk)]
  split <;> nofun

def exInner : MsgDef := ⟨"acme.Inner", true,
  [⟨"title", 4, .prim, false, false, false⟩, ⟨"marks", 7, .prim, true, false, false⟩,
   ⟨"class", 1, .prim, false, false, false⟩, ⟨"tags", 10, .prim, true, false, false⟩]⟩
def exBook : MsgDef := ⟨"acme.Book", true,
  [⟨"name", 2, .prim, false, false, false⟩, ⟨"inner", 5, .message "acme.Inner", false, false, false⟩,
   ⟨"type", 1, .message "acme.Inner", false, false, false⟩, ⟨"import", 9, .message "acme.Inner", false, false, false⟩]⟩
def exReq : MsgDef := ⟨"acme.Req", true,
  [⟨"parent", 1, .prim, false, false, false⟩, ⟨"book", 2, .message "acme.Book", false, false, false⟩,
   ⟨"class", 3, .prim, false, false, false⟩, ⟨"tags", 4, .prim, true, false, false⟩,
   ⟨"labels", 5, .message "acme.Req.LabelsEntry", true, true, false⟩,
   ⟨"import", 6, .message "acme.Inner", false, false, false⟩, ⟨"inner", 7, .message "acme.Inner", false, false, false⟩]⟩
/-- a dependency-package (pb2) request with a reserved word as a field name -/
def exDep : MsgDef := ⟨"google.api.ResourceDescriptor", false,
  [⟨"type", 1, .prim, false, false, false⟩, ⟨"pattern", 2, .prim, true, false, false⟩]⟩
def exSchema : Schema := [exReq, exBook, exInner, exDep]

/-- declared order, first occurrence, terminal reserved word suffixed, dotted path resolved -/
example : (match fieldsMappingP exSchema false exReq [["parent"], ["book", "inner", "title"], ["class"], ["parent"], ["book", "type", "class"]] with
    | .ok es => es.map (fun e => (e.key, e.param, e.path))
    | .error _ => []) =
    [("parent", "parent", [1]), ("book.inner.title", "title", [2, 5, 4]), ("class_", "class_", [3]),
     ("book.type_.class_", "class_", [2, 1, 1])] := by decide +kernel

/-- **regression for §9-F2** (`fix:` a0434d5): a keyword in a non-terminal position. The key is now
rendered `import_.title`, the emitted `def` is accepted and the path resolves to the fields found. -/
theorem keyword_segment_regression :
    (match fieldsMappingP exSchema false exReq [["import", "title"]] with
     | .ok [e] => (e.key, decide (emitCheck [e] = .ok ()), resolveAttrs exSchema exReq e.keySegs == some (e.links.map (·.field)))
     | _ => ("", false, false)) = ("import_.title", true, true) := by decide +kernel

/-- a reserved word that is not a keyword (`type`) is suffixed in the same way -/
example : (match fieldsMappingP exSchema false exReq [["book", "type", "title"]] with
    | .ok [e] => (e.key, decide (emitCheck [e] = .ok ()))
    | _ => ("", false)) = ("book.type_.title", true) := by decide +kernel

/-- two keys, one parameter name: `tags` and `inner.tags` -/
theorem duplicate_param_counterexample :
    (match fieldsMappingP exSchema false exReq [["tags"], ["inner", "tags"]] with
     | .ok es => (es.map Entry.param, emitCheck es)
     | .error _ => ([], .ok ())) = (["tags", "tags"], .error (.duplicateParam "tags")) := by decide +kernel

/-- dependency-package request with a reserved field name: `fields` is keyed `type`, `get_field`
asks for `type_` — the generator aborts with KeyError -/
theorem cross_reserved_counterexample :
    fieldsMappingP exSchema true exDep [["type"]] = .error (.keyError "type_") := by decide +kernel

/-- slots of `parent`, `book`, `book.inner.marks` (repeated), `tags` (repeated), `labels` (map) -/
def sParent : Slot := ⟨[1], false, false, false, some 1, false, false, false⟩
def sBook : Slot := ⟨[2], false, false, false, some 2, false, false, false⟩
def sMarks : Slot := ⟨[2, 5, 7], true, false, false, none, false, false, false⟩
def sTitle : Slot := ⟨[2, 5, 4], false, false, false, some 4, false, false, false⟩
def sTags : Slot := ⟨[4], true, false, false, some 4, false, false, false⟩
def sLabels : Slot := ⟨[5], true, true, false, some 5, false, false, false⟩

/-- a non-trivial argument list (dotted key, list, map, a falsy list for a top-level key, an argument left out): every
argument is `good`, the two clients agree and build the expected request — by evaluation: the list as a whole is not
`PrefixFree` (the path of the omitted `sBook` is a prefix of `sTitle`'s); the example after it shows `PrefixFree` for
the first four arguments -/
def exArgs : List Bound := [(sParent, some (.atom "p")), (sTitle, some (.atom "T")), (sMarks, some (.list ["u"])),
                            (sTags, some (.list [])), (sLabels, some (.map [("k", "v")])), (sBook, none)]
example :
    (exArgs.all good = true) ∧ call true false .none exArgs = call true true .none exArgs ∧
    call true true .none exArgs = .ok (.mcons 1 (.atom "p") (.mcons 2 (.mcons 5 (.mcons 4 (.atom "T") (.mcons 7 (.list ["u"]) .mnil)) .mnil)
      (.mcons 5 (.map [("k", "v")]) .mnil))) := by decide +kernel

example : PrefixFree [(sParent, some (.atom "p")), (sTitle, some (.atom "T")), (sMarks, some (.list ["u"])), (sTags, some (.list []))] := by
  unfold PrefixFree; decide +kernel

/-- mixed call: request + a FALSY flattened argument is still rejected, nothing is sent -/
example : call true false (.inst .mnil) [(sParent, some (.atom ""))] = .error .valueError ∧
    sent true true (.dict .mnil) [(sTags, some (.list []))] = [] := by decide +kernel

/-- **dependency-package request + dotted key** (`SetIamPolicyRequest`, "resource,policy.version"):
the sync client assigns along the path, the asyncio client passes the terminal name to the pb2
constructor — which has no such top-level field, even when the argument is `None`. -/
def exCross : List Bound := [(⟨[1], false, false, false, some 1, true, false, false⟩, some (.atom "r")), (⟨[2, 1], false, false, false, none, true, false, false⟩, none)]
theorem async_cross_dotted_counterexample :
    call false false .none exCross = .ok (.mcons 1 (.atom "r") .mnil) ∧
    call false true .none exCross = .error .ctorUnknownField := by decide +kernel

/-- **overlapping keys** (`book` and `book.inner.marks` given together): sync assigns twice, asyncio
assigns the message and then EXTENDS the list it already carries. -/
def exOverlap : List Bound := [(sBook, some (.mcons 5 (.mcons 7 (.list ["u"]) .mnil) .mnil)), (sMarks, some (.list ["u"]))]
theorem overlap_counterexample :
    call true false .none exOverlap = .ok (.mcons 2 (.mcons 5 (.mcons 7 (.list ["u"]) .mnil) .mnil) .mnil) ∧
    call true true .none exOverlap = .ok (.mcons 2 (.mcons 5 (.mcons 7 (.list ["u", "u"]) .mnil) .mnil) .mnil) := by decide +kernel

/-- **an empty list for a dotted repeated key**: the sync assignment makes `book` and `book.inner`
present, the asyncio client skips it. -/
theorem falsy_dotted_counterexample :
    call true false .none [(sMarks, some (.list []))] = .ok (.mcons 2 (.mcons 5 .mnil .mnil) .mnil) ∧
    call true true .none [(sMarks, some (.list []))] = .ok .mnil := by decide +kernel

/-- slots of `mask.paths` (repeated, owner `google.protobuf.FieldMask` — a raw protobuf class) and of
`op.error` (singular message, owner `google.longrunning.Operation`) inside a same-package request -/
def sMaskPaths : Slot := ⟨[6, 1], true, false, false, none, true, false, false⟩
def sOpError : Slot := ⟨[7, 4], false, false, false, none, true, true, false⟩
def sStatusCode : Slot := ⟨[8, 1], false, false, false, none, true, false, false⟩

/-- **regression for `fix:` 9d33fc0 — a repeated field of a raw sub-message** (`update_mask.paths`,
`status.details`, `policy.bindings`): the sync client used to execute `request.mask.paths = paths`
(refused by protobuf); both clients now extend and send the same request. -/
theorem raw_owner_repeated_regression :
    call true false .none [(sMaskPaths, some (.list ["a", "b"]))] =
      .ok (.mcons 6 (.mcons 1 (.list ["a", "b"]) .mnil) .mnil) ∧
    call true true .none [(sMaskPaths, some (.list ["a", "b"]))] =
      .ok (.mcons 6 (.mcons 1 (.list ["a", "b"]) .mnil) .mnil) ∧
    call true false .none [(sMaskPaths, some (.list []))] = call true true .none [(sMaskPaths, some (.list []))] := by decide +kernel

/-- **a message field of a raw sub-message** (`op.error`): `request.op.error = error` is refused by
protobuf in BOTH clients; the request call with the same field set goes through. -/
theorem raw_owner_message_counterexample :
    call true false .none [(sOpError, some (.mcons 1 (.atom "3") .mnil))] = .error .attributeError ∧
    call true true .none [(sOpError, some (.mcons 1 (.atom "3") .mnil))] = .error .attributeError ∧
    call true true (.inst (.mcons 7 (.mcons 4 (.mcons 1 (.atom "3") .mnil) .mnil) .mnil)) [(sOpError, none)] =
      .ok (.mcons 7 (.mcons 4 (.mcons 1 (.atom "3") .mnil) .mnil) .mnil) := by decide +kernel

/-- a SCALAR of a raw sub-message (`status.code`) is fine in both clients: the hypotheses of
`sync_async_agree` / `kwargs_equiv_request` are met by a key with a raw owner -/
example : [(sStatusCode, some (.atom "5"))].any (rawAssignFails false) = false ∧
    call true false .none [(sStatusCode, some (.atom "5"))] = .ok (.mcons 8 (.mcons 1 (.atom "5") .mnil) .mnil) ∧
    call true true .none [(sStatusCode, some (.atom "5"))] = .ok (.mcons 8 (.mcons 1 (.atom "5") .mnil) .mnil) := by decide +kernel

/-- a client-streaming method offers no flattened parameter whatever its signatures say -/
example : (match fieldsMappingP exSchema false exReq [["parent"], ["tags"]] with
    | .ok es => (paramListOf true es, paramListOf false es)
    | .error _ => ([], [])) =
    (["self", "requests", "retry", "timeout", "metadata"],
     ["self", "request", "parent", "tags", "retry", "timeout", "metadata"]) := by decide +kernel

/-- **regression for `fix:` 9d33fc0 — two repeated keys of a dependency-package request**
(`FileDescriptorProto`: "dependency,public_dependency"): the second pass of the sync macro no longer
shifts the second `if` (client.py used to raise IndentationError). -/
theorem cross_two_repeated_regression (samePkg : Bool) (es : List Entry) : emitIndentOk samePkg es = true := rfl

/-- sub-package request (`acme.lib.v1.common.Sub0Request`, key `tags`: repeated, proto-plus owner,
package differs from the service's): both clients send the list -/
example : call false false .none [(⟨[2], true, false, false, some 2, false, false, false⟩, some (.list ["a", "b"]))] =
      .ok (.mcons 2 (.list ["a", "b"]) .mnil) ∧
    call false true .none [(⟨[2], true, false, false, some 2, false, false, false⟩, some (.list ["a", "b"]))] =
      .ok (.mcons 2 (.list ["a", "b"]) .mnil) := by decide +kernel

/-! ## 5. Packages and layouts

The templates branch on two facts only: `method.input.ident.package != method.ident.package` and
`field.meta.address.is_proto_plus_type`.  Both are functions of the packages of the declaring files
(`crossPkgOf`, `isProtoPlusType`), so the theorems of §2/§3 — stated for an arbitrary `samePkg` and arbitrary
owner flags — cover every layout; the theorems below say which point of the model each layout is. -/

section Aux
theorem append_sub_ne (p sub : String) : p ++ "." ++ sub ≠ p := fun h => by
  have := congrArg String.toList h
  simp -index only [String.toList_append, String.toList_ofList, List.append_assoc, List.append_right_eq_self] at this
  cases this

theorem samePkg_iff {i s : String} : (!crossPkgOf i s) = true ↔ i = s := by simp [crossPkgOf]
theorem crossPkg_iff {i s : String} : (!crossPkgOf i s) = false ↔ i ≠ s := by simp [crossPkgOf]
end Aux

/-- `is_proto_plus_type`, exactly: the API's proto package is a STRING prefix of the package, or the package is
listed in `proto-plus-deps`. -/
theorem isProtoPlusType_iff (n : Naming) (pkg : String) :
    isProtoPlusType n pkg = true ↔ (n.protoPackage.toList <+: pkg.toList ∨ pkg ∈ n.protoPlusDeps) := by
  rw [isProtoPlusType, Bool.or_eq_true, List.isPrefixOf_iff_prefix, List.contains_iff_mem]

/-- the API's own package holds proto-plus types … -/
theorem api_package_is_proto_plus (n : Naming) : isProtoPlusType n n.protoPackage = true :=
  (isProtoPlusType_iff n _).mpr (.inl (List.prefix_refl _))

/-- … and so does **every sub-package of the API, at any depth** (`sub` may itself be dotted). -/
theorem sub_package_is_proto_plus (n : Naming) (sub : String) :
    isProtoPlusType n (n.protoPackage ++ "." ++ sub) = true :=
  (isProtoPlusType_iff n _).mpr (.inl (by rw [String.append_assoc, String.toList_append]; exact List.prefix_append _ _))

/-- a `proto-plus-deps` package holds proto-plus types whatever it is called -/
theorem proto_plus_dep_is_proto_plus (n : Naming) (pkg : String) (h : pkg ∈ n.protoPlusDeps) :
    isProtoPlusType n pkg = true :=
  (isProtoPlusType_iff n pkg).mpr (.inr h)

/-- the prefix test is made on the dotted STRING, not on the package tuple: a sibling package whose last
segment merely begins like the API's (`acme.lib.v1beta` next to `acme.lib.v1`) counts as proto-plus although it
is not part of the API (run on the real `Address.is_proto_plus_type` by the harness, T2 `c05.packages`). -/
theorem proto_plus_string_prefix_counterexample :
    isProtoPlusType ⟨"acme.lib.v1", []⟩ "acme.lib.v1beta" = true ∧
    isProtoPlusType ⟨"acme.lib.v1", []⟩ "acme.lib" = false ∧
    isProtoPlusType ⟨"acme.lib.v1", ["google.iam.v1"]⟩ "google.iam.v1" = true ∧
    isProtoPlusType ⟨"acme.lib.v1", ["google.iam.v1"]⟩ "google.rpc" = false := by
  simp -index only [isProtoPlusType, String.toList_ofList]
  decide +kernel

/-- a request declared in the service's own package — wherever that is: the API root or a (nested)
sub-package — is a same-package request -/
theorem same_package_not_cross (p : String) : crossPkgOf p p = false := by simp [crossPkgOf]

/-- **service in a package, request in a sub-package of it** (service `acme.lib.v1`, request
`acme.lib.v1.common`; service `acme.lib.v1.admin`, request `acme.lib.v1.admin.deep`): the
"different package" branch, although the request is a proto-plus type -/
theorem sub_package_request_is_cross (svc sub : String) : crossPkgOf (svc ++ "." ++ sub) svc = true :=
  bne_iff_ne.mpr (append_sub_ne svc sub)

/-- **service in a sub-package, request in the package above** (service `acme.lib.v1.admin`, request
`acme.lib.v1`): the "different package" branch as well -/
theorem parent_package_request_is_cross (inp sub : String) : crossPkgOf inp (inp ++ "." ++ sub) = true :=
  bne_iff_ne.mpr (append_sub_ne inp sub).symm

theorem callOf_sub_package (svc sub : String) (asy : Bool) (req : ReqArg) (bs : List Bound) :
    callOf svc (svc ++ "." ++ sub) asy req bs = call false asy req bs := by
  rw [callOf, sub_package_request_is_cross]; rfl

/-- **kwargs call ≡ request call in EVERY package layout** (service and request each in the root package, a
sub-package, a nested or sibling sub-package, or the request in a dependency package), both clients: under
the hypotheses of `kwargs_equiv_request` when the two packages coincide and of `kwargs_equiv_request_cross`
when they differ. -/
theorem kwargs_equiv_request_any_layout (svcPkg inputPkg : String) (asy : Bool) (bs : List Bound)
    (hg : ∀ b ∈ bs, good b = true) (hpf : PrefixFree bs) (hmar : bs.any marshalFails = false)
    (hsame : inputPkg = svcPkg → bs.any (rawAssignFails asy) = false)
    (hcross : inputPkg ≠ svcPkg → asy = true → ∀ b ∈ bs, ctorOk b = true) :
    callOf svcPkg inputPkg asy .none bs = .ok (setAll bs .mnil) ∧
    callOf svcPkg inputPkg asy (.inst (setAll bs .mnil)) (bs.map fun b => (b.1, none)) = .ok (setAll bs .mnil) :=
  ⟨call_kwargs_only _ asy bs hg hpf (hsame ∘ samePkg_iff.mp) (fun _ => hmar) (hcross ∘ crossPkg_iff.mp),
   (call_request_only _ asy _ _ (noargs_map bs)).1⟩

/-- **sync ≡ asyncio in every package layout** -/
theorem sync_async_agree_any_layout (svcPkg inputPkg : String) (req : ReqArg) (bs : List Bound)
    (hg : ∀ b ∈ bs, good b = true) (hpf : PrefixFree bs)
    (hsame : inputPkg = svcPkg → bs.any (rawAssignFails false) = false)
    (hcross : inputPkg ≠ svcPkg → (∀ b ∈ bs, ctorOk b = true) ∧ bs.any marshalFails = false) :
    callOf svcPkg inputPkg false req bs = callOf svcPkg inputPkg true req bs :=
  sync_async_same _ req bs hg hpf (fun h => (hcross (crossPkg_iff.mp h)).1) fun h => (hcross (crossPkg_iff.mp h)).2

/-- **request + any flattened argument → ValueError, nothing sent, in every package layout** -/
theorem mixed_call_rejected_any_layout (svcPkg inputPkg : String) (asy : Bool) (req : ReqArg) (bs : List Bound)
    (hr : req.isGiven = true) (hk : ∃ b ∈ bs, b.2 ≠ none) :
    callOf svcPkg inputPkg asy req bs = .error .valueError :=
  mixed_call_rejected _ asy req bs hr hk

/-- non-vacuity: a request of `acme.lib.v1.admin.deep` called through a service of `acme.lib.v1.admin`
(dotted key, list, map, a key left out) -/
example :
    let bs : List Bound := [(sParent, some (.atom "p")), (sTags, some (.list ["a"])), (sLabels, some (.map [("k", "v")])), (sBook, none)]
    (bs.all good = true) ∧ bs.any marshalFails = false ∧ (bs.all ctorOk = true) ∧
    callOf "acme.lib.v1.admin" "acme.lib.v1.admin.deep" true .none bs =
      .ok (.mcons 1 (.atom "p") (.mcons 4 (.list ["a"]) (.mcons 5 (.map [("k", "v")]) .mnil))) ∧
    callOf "acme.lib.v1.admin" "acme.lib.v1.admin.deep" false .none bs =
      callOf "acme.lib.v1.admin" "acme.lib.v1.admin" false .none bs := by decide +kernel

/-- **in the "different package" branch the sync macro never ASSIGNS a repeated key** (first pass skips it,
second pass extends / updates it when non-empty) — whatever the owner: also for the proto-plus request of a
sub-package, where assignment would have worked (seeded change seed4_C05 broke exactly this complementarity). -/
theorem cross_repeated_second_pass_only (b : Bound) (r : Val) (h : b.1.repeated = true) :
    syncLoop1 false r b = r ∧
    syncLoop2 false r b = (match b.2 with
      | none => r
      | some v => if truthy (some v) then
          (if b.1.isMap then modifyAt b.1.path (updateOp v) r else modifyAt b.1.path (extendOp v) r) else r) := by
  rw [syncLoop1, syncLoop2, h]
  exact ⟨rfl, rfl⟩

/-- **cross-package request + dotted key whose terminal name is ALSO a top-level field** (request
`acme.lib.v1.common.Sub0Request{parent, part, title}` of a service in `acme.lib.v1`, signature
"parent,part.title"): the sync client sets `part.title`, the asyncio client silently sets the top-level
`title` — no exception, a different request on the wire. -/
def sPartTitle : Slot := ⟨[2, 2], false, false, false, some 7, false, false, false⟩
theorem async_cross_misroute_counterexample :
    call false false .none [(sPartTitle, some (.atom "T"))] = .ok (.mcons 2 (.mcons 2 (.atom "T") .mnil) .mnil) ∧
    call false true .none [(sPartTitle, some (.atom "T"))] = .ok (.mcons 7 (.atom "T") .mnil) ∧
    callOf "acme.lib.v1" "acme.lib.v1.common" true .none [(sPartTitle, some (.atom "T"))] = .ok (.mcons 7 (.atom "T") .mnil) := by
  decide +kernel

/-! ### a key INTO a marshalled well-known type -/

/-- `ttl.seconds` (singular, owner `google.protobuf.Duration`) and `lv.values` (repeated, owner
`google.protobuf.ListValue`) in a same-package request -/
def sTtlSeconds : Slot := ⟨[9, 1], false, false, false, none, true, false, true⟩
def sLvValues : Slot := ⟨[10, 1], true, false, false, none, true, false, true⟩

/-- **a signature path into a well-known type that proto-plus marshals** (`ttl.seconds`, `wrapped.value`,
`lv.values`): `request.ttl` is a python value, `request.ttl.seconds = seconds` raises AttributeError — in BOTH
clients of a same-package request and for every value, while the request call with the field set goes through;
an EMPTY list for the repeated key is not applied at all (no error). -/
theorem marshalled_owner_counterexample :
    call true false .none [(sTtlSeconds, some (.atom "5"))] = .error .attributeError ∧
    call true true .none [(sTtlSeconds, some (.atom "5"))] = .error .attributeError ∧
    call true false .none [(sLvValues, some (.list ["1"]))] = .error .attributeError ∧
    call true true .none [(sLvValues, some (.list []))] = .ok .mnil ∧
    call true true (.inst (.mcons 9 (.atom "5s") .mnil)) [(sTtlSeconds, none)] = .ok (.mcons 9 (.atom "5s") .mnil) := by
  decide +kernel

/-- a top-level key never runs into a marshalled value: the flag needs a dotted path whose last-but-one field
sits in a proto-plus message -/
theorem marshal_owner_needs_dotted (e : Entry) (h : e.pre = []) : e.marshalOwner = false := by
  simp [Entry.marshalOwner, h]

/-- … and for a request all of whose messages are raw protobuf classes (a dependency-package request) no key
does: `request.timeout.seconds = seconds` assigns to the raw Duration -/
theorem marshal_owner_needs_proto_plus_parent (e : Entry) (h : ∀ l ∈ e.pre, l.ownerPP = false) :
    e.marshalOwner = false := by
  unfold Entry.marshalOwner
  cases hl : e.pre.getLast? with
  | none => simp
  | some l => simp [h l (List.mem_of_getLast? hl)]

/-- the mapping of a path into a Duration: `ttl.seconds` resolves (the generator emits the method), the slot is
flagged -/
example : (match fieldsMappingP
      [⟨"acme.R", true, [⟨"ttl", 9, .message "google.protobuf.Duration", false, false, false⟩]⟩,
       ⟨"google.protobuf.Duration", false, [⟨"seconds", 1, .prim, false, false, false⟩]⟩]
      false ⟨"acme.R", true, [⟨"ttl", 9, .message "google.protobuf.Duration", false, false, false⟩]⟩ [["ttl", "seconds"]] with
    | .ok [e] => (e.key, e.param, e.marshalOwner)
    | _ => ("", "", false)) = ("ttl.seconds", "seconds", true) := by decide +kernel

/-! ### what a different-package request offers; where the owner flags come from -/

/-- **a request of a DIFFERENT package offers only primitive fields** — whichever layout makes it different
(dependency package, sub-package of the API, the package above the service's): message, enum, map and
`struct_pb2.Value` fields named in a signature are dropped, every parameter that IS offered is a scalar or a
repeated scalar (so the `Value` special case and protobuf's message-assignment rule never apply there). -/
theorem cross_package_offers_only_primitive (sch : Schema) (input : MsgDef) (paths : List (List String))
    (es : List Entry) (h : fieldsMappingP sch true input paths = .ok es) :
    ∀ e ∈ es, e.field.isPrimitive = true ∧ (e.slot input).isMsg = false := by
  unfold fieldsMappingP at h
  cases hy : yielded sch true input paths with
  | error e => simp [hy] at h
  | ok ys =>
    simp only [hy, Except.ok.injEq] at h
    subst h
    intro e he
    have hm : e ∈ ys := (foldl_odInsert_mem ys [] e he).resolve_left (by simp)
    have hp := (yielded_mem sch true input paths ys hy e hm).2 rfl
    refine ⟨hp, ?_⟩
    simp only [Entry.slot, Field.isSingularMessage]
    have : e.field.kind = .prim := by simpa [Field.isPrimitive] using hp
    simp [this]

/-- the same, stated for a layout: the request declared in a sub-package below the service's package -/
theorem sub_package_request_offers_only_primitive (n : Naming) (svc sub : String) (sch : List PMsg) (input : PMsg)
    (sigs : List String) (es : List Entry) (hp : input.pkg = svc ++ "." ++ sub)
    (h : mappingOf n svc sch input sigs = .ok es) : ∀ e ∈ es, e.field.isPrimitive = true := by
  unfold mappingOf fieldsMapping at h
  rw [hp, sub_package_request_is_cross] at h
  exact fun e he => (cross_package_offers_only_primitive _ _ _ es h e he).1

section Aux
theorem getField_links_from (sch : Schema) (segs : List String) (m : MsgDef) (pre : List Link) (last : Link)
    (h : getField sch m segs = .ok (pre, last)) :
    ∀ l ∈ pre ++ [last], ∃ d, (d = m ∨ d ∈ sch) ∧ d.full = l.owner ∧ d.protoPlus = l.ownerPP := by
  fun_induction getField sch m segs generalizing pre last <;> cases h
  · simp
  · rename_i hsub _ _ hrec ih
    intro l hl
    rcases List.mem_cons.mp hl with rfl | hl
    · exact ⟨_, Or.inl rfl, rfl, rfl⟩
    · obtain ⟨d, hd, h12⟩ := ih _ _ hrec l hl
      exact ⟨d, Or.inr (hd.elim (· ▸ List.mem_of_find?_eq_some hsub) id), h12⟩
end Aux

/-- **the owner flag of every link is derived from a package**: in the schema built from the packages of the
declaring files (`PMsg.toMsgDef`), every message `get_field` walks through is a message of the schema (or the
request itself), and its proto-plus flag is `isProtoPlusType` of the package it is declared in. -/
theorem derived_owner_flags (n : Naming) (ps : List PMsg) (input : PMsg) (segs : List String)
    (pre : List Link) (last : Link)
    (h : getField (ps.map (PMsg.toMsgDef n)) (input.toMsgDef n) segs = .ok (pre, last)) :
    ∀ l ∈ pre ++ [last], ∃ pm, (pm = input ∨ pm ∈ ps) ∧ pm.full = l.owner ∧ l.ownerPP = isProtoPlusType n pm.pkg := by
  intro l hl
  obtain ⟨d, hd, h1, h2⟩ := getField_links_from _ segs _ pre last h l hl
  obtain ⟨pm, hpm, rfl⟩ : ∃ pm, (pm = input ∨ pm ∈ ps) ∧ pm.toMsgDef n = d :=
    hd.elim (fun e => ⟨input, .inl rfl, e.symm⟩) fun hd => (List.mem_map.mp hd).imp fun _ h => ⟨.inr h.1, h.2⟩
  -- made syntactic: unifying `(pm.toMsgDef n).protoPlus` with `isProtoPlusType n pm.pkg` unfolds the string test first
  dsimp only [PMsg.toMsgDef] at h1 h2
  exact ⟨pm, hpm, h1, h2.symm⟩

/-- hence **a key that ends in a message declared in the API's package or in any of its sub-packages never has a
raw owner** (message names are unique in a descriptor pool: `hu`), whatever the layout of service and request:
its repeated fields are assigned by the first pass of a same-package sync client and its message fields may be
assigned. -/
theorem api_message_owner_not_raw (n : Naming) (ps : List PMsg) (input : PMsg) (segs : List String)
    (pre : List Link) (last : Link)
    (h : getField (ps.map (PMsg.toMsgDef n)) (input.toMsgDef n) segs = .ok (pre, last))
    (hu : ∀ pm, (pm = input ∨ pm ∈ ps) → pm.full = last.owner →
      pm.pkg = n.protoPackage ∨ ∃ sub, pm.pkg = n.protoPackage ++ "." ++ sub) :
    (Entry.slot (input.toMsgDef n) ⟨segs, pre, last⟩).rawOwner = false := by
  obtain ⟨pm, hpm, h1, h2⟩ := derived_owner_flags n ps input segs pre last h last (by simp)
  have : last.ownerPP = true := by
    rw [h2]
    rcases hu pm hpm h1 with hp | ⟨sub, hp⟩
    · rw [hp]; exact api_package_is_proto_plus n
    · rw [hp]; exact sub_package_is_proto_plus n sub
  simp [Entry.slot, this]

/-- non-vacuity: `part.marks` of a request in `acme.lib.v1.admin` whose `part` is an `acme.lib.v1.common.Part` -/
example :
    let n : Naming := ⟨"acme.lib.v1", []⟩
    let part : PMsg := ⟨"acme.lib.v1.common", "acme.lib.v1.common.Part", [⟨"marks", 1, .prim, true, false, false⟩]⟩
    let rq : PMsg := ⟨"acme.lib.v1.admin", "acme.lib.v1.admin.Req", [⟨"part", 2, .message "acme.lib.v1.common.Part", false, false, false⟩]⟩
    (match getField ([part, rq].map (PMsg.toMsgDef n)) (rq.toMsgDef n) ["part", "marks"] with
     | .ok (pre, last) => (pre.map (·.ownerPP), last.owner, last.ownerPP)
     | .error _ => ([], "", false)) = ([true], "acme.lib.v1.common.Part", true) := by decide +kernel

/-- non-vacuity of `cross_package_offers_only_primitive` / `sub_package_request_offers_only_primitive`: a request of
`acme.lib.v1.common` called through a service of `acme.lib.v1`, signature "parent,part,tags,part.marks" — the
message-typed `part` is dropped, the scalars and repeated scalars (top-level and dotted) are offered -/
example :
    let n : Naming := ⟨"acme.lib.v1", []⟩
    let part : PMsg := ⟨"acme.lib.v1.common", "acme.lib.v1.common.Part", [⟨"marks", 1, .prim, true, false, false⟩]⟩
    let rq : PMsg := ⟨"acme.lib.v1.common", "acme.lib.v1.common.Req",
      [⟨"parent", 1, .prim, false, false, false⟩, ⟨"part", 2, .message "acme.lib.v1.common.Part", false, false, false⟩,
       ⟨"tags", 3, .prim, true, false, false⟩]⟩
    (match fieldsMappingP ([part, rq].map (PMsg.toMsgDef n)) (crossPkgOf rq.pkg "acme.lib.v1") (rq.toMsgDef n)
        [["parent"], ["part"], ["tags"], ["part", "marks"]] with
     | .ok es => es.map (fun e => (e.key, e.field.isPrimitive, (e.slot (rq.toMsgDef n)).rawOwner))
     | .error _ => []) = [("parent", true, false), ("tags", true, false), ("part.marks", true, false)] := by decide +kernel

end GapicModel.Props.C05
