import GapicModel.Model.Whitespace
import GapicModel.Model.Wrap
import GapicModel.Lemmas.Textwrap
import GapicModel.Lemmas.WrapWhole
import GapicModel.Lemmas.WrapWidth
import GapicModel.Lemmas.RstWords
import GapicModel.Lemmas.CodeLines
import GapicModel.Lemmas.FixWsRuns
import GapicModel.Pinned.Funcs
import GapicModel.Lemmas.SplitJoin
/-
C20 — comments reach docstrings intact; whitespace clean-up is meaning-preserving.  The end results about
`fix_whitespace` (proofs: Lemmas/CodeLines, FixWsRuns, MapRuns), about the `textwrap` core and `lines.wrap` (the wrap
lemma files), the docstring safety of the tail of `rst()`, witnesses evaluated on the model, and the agreement of the
hand-written helpers with the functions translated from the source.
-/
namespace GapicModel.Props.C20
open GapicModel.Regex GapicModel.Model.Whitespace

/-- the non-whitespace characters of a text, in order -/
def nonWs (t : ClassTables) (s : List Char) : List Char := s.filter (fun c => !isWs t c)

theorem nonWs_append (t) (a b : List Char) : nonWs t (a ++ b) = nonWs t a ++ nonWs t b := by
  simp [nonWs]

theorem nonWs_all_ws (t) (w : List Char) (h : ∀ c ∈ w, isWs t c = true) : nonWs t w = [] := by
  simp only [nonWs, List.filter_eq_nil_iff]
  intro c hc; simp [h c hc]

abbrev T := Pinned.classTables

theorem ws_space : isWs T ' ' = true := Lemmas.FixWsRuns.ws_sp

/-- the structural patterns of Model/Whitespace.lean ARE the pinned translator output (which the bridge lemmas tie to /repo) -/
theorem patterns_are_pinned :
    Pinned.fixws1.re = ws1Re ∧ Pinned.fixws2.re = ws2Re ∧ Pinned.fixws3.re = ws3Re ∧
    Pinned.fixws1Repl = ws1Repl ∧ Pinned.fixws2Repl = ws2Repl ∧ Pinned.fixws3Repl = ws3Repl := by decide +kernel

/-- **The post-processor only removes (or rewrites) whitespace**: the sequence of non-whitespace
characters of any text — in particular of any Python source — is unchanged.  Every input, no bound. -/
theorem fix_only_removes_whitespace (s : List Char) : nonWs T (fixWhitespace s) = nonWs T s := by
  refine Lemmas.CodeLines.fixWhitespace_blind (f := nonWs T) (fun X N hX hN p q => ?_)
    (fun a B hB => by rw [nonWs_append, nonWs_all_ws T B hB, List.append_nil]) s
  simp only [nonWs_append, nonWs_all_ws T X hX, nonWs_all_ws T N hN,
    nonWs_all_ws T ['\n'] (Lemmas.MapRuns.allWs_cons Lemmas.FixWsRuns.ws_nl Lemmas.MapRuns.allWs_nil)]

/-- **The result ends with exactly one newline**: it is `body ++ "\n"` where `body` is empty or ends
in a non-whitespace character (so in particular not in a second newline). -/
theorem fix_ends_one_newline (s : List Char) :
    ∃ body, fixWhitespace s = body ++ ['\n'] ∧ ∀ c, body.getLast? = some c → isWs T c = false :=
  ⟨_, rfl, Lemmas.MapRuns.rstripW_endsNonWs _⟩

/-- **The whitespace post-processor only removes trailing blanks and surplus blank lines**: for EVERY source
text, the code lines of `fix_whitespace(code)` — the non-blank lines, right-stripped, each with its indentation,
in order (`Lemmas.CodeLines.codeLines`) — are exactly the code lines of `code`. No line is joined, split,
re-indented, dropped or reordered; what changes is only whitespace at line ends and the number of blank lines
(so the Python token stream outside multi-line string literals, and with it the AST, is the same: that last
step is argued in DESIGN §7.20 and checked by the oracle with `ast.dump`, not proved here). Proof: each of the
three extracted patterns can only match a blank stretch ending in a line break followed by kept text
(`blankNl_ws1`/`blankNl_ws2`/`blankNl_ws3`, through the regex engine's soundness theorem), and any two such stretches
are interchangeable in every context (`ctx_blank_nl`); `fixWhitespace_blind` is the general statement, of which
`fix_only_removes_whitespace` is the other instance. -/
theorem fix_preserves_code_lines (s : List Char) :
    Lemmas.CodeLines.codeLines (fixWhitespace s) = Lemmas.CodeLines.codeLines s :=
  Lemmas.CodeLines.fixWhitespace_blind Lemmas.CodeLines.ctx_blank_nl
    (fun a B hB => Lemmas.CodeLines.codeLines_append_blank B a hB) s

/-- the test source of this file, run through the model once: trailing blanks, five line breaks before `def`, three
before an indented statement, three at the end, so that all three passes and the final `rstrip()` fire -/
theorem fixWhitespace_demo : fixWhitespace "x = 1  \n\n\n\n\ndef f():\n    a = 1\n\n\n    b = 2\n\n\n".toList
    = "x = 1\n\n\ndef f():\n    a = 1\n\n    b = 2\n".toList := by
  simp -index only [String.toList_ofList]
  decide +kernel

example : fixWhitespace "x = 1  \n\n\n\n\ndef f():\n    a = 1\n\n\n    b = 2\n\n\n".toList
    = "x = 1\n\n\ndef f():\n    a = 1\n\n    b = 2\n".toList := fixWhitespace_demo

/-- non-vacuity: a source whose blank-line runs and trailing blanks really change, with nested indentation -/
example : Lemmas.CodeLines.codeLines (fixWhitespace "x = 1  \n\n\n\n\ndef f():\n    a = 1\n\n\n    b = 2\n\n\n".toList)
    = ["x = 1".toList, "def f():".toList, "    a = 1".toList, "    b = 2".toList] ∧
    fixWhitespace "x = 1  \n\n\n\n\ndef f():\n    a = 1\n\n\n    b = 2\n\n\n".toList
      ≠ "x = 1  \n\n\n\n\ndef f():\n    a = 1\n\n\n    b = 2\n\n\n".toList := by
  rw [fixWhitespace_demo]
  simp -index only [String.toList_ofList]
  decide +kernel

/-- **`fix_whitespace` is idempotent** — for EVERY text, formatting the formatter's output again changes nothing
(the clause "is idempotent" of C20, at full strength, no hypothesis on the text).  Proof (Lemmas/FixWsRuns.lean,
Lemmas/MapRuns.lean, Lemmas/RegexComplete.lean): each of the three `re.sub` passes is shown to be EQUAL to a run-local
rewriting of the maximal whitespace runs of the text (`pass1_eq`, `pass2_eq`, `pass3_eq` — the regex engine's
soundness gives the shape of every reported match, its completeness for look-free patterns gives that a position the
left-most search skipped admits no match), so the whole function is one such pass followed by `rstrip() + "\n"`
(`fix_is_one_pass_over_runs`); passes that keep runs non-empty and white compose run by run (`mapRuns_comp`), and the
composed per-run rewriter is idempotent by cases on which pass fires (`H_idem`). -/
theorem fix_idempotent (s : List Char) : fixWhitespace (fixWhitespace s) = fixWhitespace s := by
  rw [Lemmas.FixWsRuns.fixWhitespace_eq s, Lemmas.FixWsRuns.fixWhitespace_eq]
  exact Lemmas.MapRuns.tail_mapRuns_idem Lemmas.FixWsRuns.wsPres_H Lemmas.FixWsRuns.ws_nl
    (fun R la _ _ => Lemmas.FixWsRuns.H_idem R la) s

/-- what `fix_whitespace` computes, exactly: every maximal run `R` of whitespace is replaced by `H R la` (`la` the
token that follows): spaces before line breaks dropped; then `"\n\n\n"` if `R` has the shape `\s+\n\s*\n\s*\n` in
front of `class|def|@|#|_`, else `"\n\n" ++ indent` if it has the shape `\s+\n\s*\n(    )+` in front of a word
character, `_`, `@` or `#` (`H_pass2`, `H_pass3`, `H_neither`); nothing else in the text is touched; then
`rstrip() + "\n"`. -/
theorem fix_is_one_pass_over_runs (s : List Char) :
    fixWhitespace s = Lemmas.MapRuns.tailF (isWs T) (Lemmas.MapRuns.mapRuns (isWs T) Lemmas.FixWsRuns.H s) :=
  Lemmas.FixWsRuns.fixWhitespace_eq s

/-- the model's regex engine decides matching exactly for patterns without look-around: it fails at a position iff
NO run of the pattern exists there (`matchAt_none_iff`: soundness `m_sound` + completeness `Run.m_isSome`); the three patterns of
`fix_whitespace` are such patterns -/
theorem matcher_exact_on_fix_patterns (pre rest : List Char) :
    (matchAt T ws1Re pre rest = none ↔ ¬ ∃ st, Run T ws1Re ⟨pre, rest, []⟩ st) ∧
    (matchAt T ws2Re pre rest = none ↔ ¬ ∃ st, Run T ws2Re ⟨pre, rest, []⟩ st) ∧
    (matchAt T ws3Re pre rest = none ↔ ¬ ∃ st, Run T ws3Re ⟨pre, rest, []⟩ st) :=
  ⟨matchAt_none_iff Lemmas.FixWsRuns.noLook_ws.1 pre rest, matchAt_none_iff Lemmas.FixWsRuns.noLook_ws.2.1 pre rest,
    matchAt_none_iff Lemmas.FixWsRuns.noLook_ws.2.2 pre rest⟩

/-- a test, not the theorem: on a source where all three passes fire the second application is the identity and the
first is not -/
example : fixWhitespace (fixWhitespace "x = 1  \n\n\n\n\ndef f():\n    a = 1\n\n\n    b = 2\n\n\n".toList)
      = fixWhitespace "x = 1  \n\n\n\n\ndef f():\n    a = 1\n\n\n    b = 2\n\n\n".toList ∧
    fixWhitespace "x = 1  \n\n\n\n\ndef f():\n    a = 1\n\n\n    b = 2\n\n\n".toList
      = "x = 1\n\n\ndef f():\n    a = 1\n\n    b = 2\n".toList := by
  rw [fixWhitespace_demo]
  simp -index only [String.toList_ofList]
  decide +kernel

/-! ## `textwrap` core (`_wrap_chunks`): words are kept, width is respected
(helper lemmas and proofs: `Lemmas/Textwrap.lean`) -/

open GapicModel.Lemmas.Textwrap (lenSum wordsOf)

open GapicModel.Model.Wrap in
/-- **`_wrap_chunks` never drops, duplicates or reorders a word**: the non-blank chunks of the emitted
lines, in order, are exactly the non-blank chunks it was given (any width, indents, chunk list). -/
theorem textwrap_words_preserved (t : ClassTables) (width iiLen siLen : Nat) :
    ∀ (fuel : Nat) (first : Bool) (cs : List Str), cs.length < fuel →
      wordsOf t (wrapCur t width iiLen siLen fuel first cs).flatten = wordsOf t cs :=
  fun fuel first cs h => (Lemmas.Textwrap.wrapCur_cut_all t width iiLen siLen fuel first cs h).wordsOf_eq

open GapicModel.Model.Wrap in
/-- **Width bound**: every emitted line either fits (chunk lengths + its indent ≤ width) or consists of
a single chunk (one unbreakable word). The first emitted line is measured with `initial_indent`. -/
theorem textwrap_width_bound (t : ClassTables) (width iiLen siLen : Nat) :
    ∀ (fuel : Nat) (first : Bool) (cs : List Str),
      match wrapCur t width iiLen siLen fuel first cs with
      | [] => True
      | l :: ls => (lenSum l ≤ width - (if first then iiLen else siLen) ∨ l.length ≤ 1) ∧
                   ∀ l' ∈ ls, (lenSum l' ≤ width - siLen ∨ l'.length ≤ 1) :=
  Lemmas.Textwrap.width_bound t width iiLen siLen

/-! ## `gapic.utils.lines.wrap` as a whole (helper lemmas: `Lemmas/Words`, `WrapWords`, `TextwrapWords`,
`WrapColon`, `WrapWhole`) -/

open GapicModel.Lemmas.Words (words)

open GapicModel.Model.Wrap in
/-- **Wrapping a comment never drops, duplicates or reorders its words** — full strength: for EVERY text,
width, offset and indent for which the model of `lines.wrap` returns, the words (`str.split()`: maximal
runs of non-whitespace) of the result are exactly the words of the text, in order.  The statement needed
the hypothesis `text does not start with whitespace` on the tree before `fix:` be75097 (the excluded point
`wrap('   ' + 'x'*30, 20)` repeated the tail of the word on the real code); with the fix it needs none. -/
theorem wrap_words_preserved (text : List Char) (width : Int) (offset : Option Int) (indent : Nat) (out : List Char)
    (h : wrap T text width offset indent = some out) : words T out = words T text := by
  rcases Lemmas.WrapWhole.wrap_spec text width offset indent with ⟨h0, he⟩ | ⟨-, he⟩ | ⟨g, E, text', hh, he⟩
  · obtain rfl := Option.some.inj (he.symm.trans h)
    rw [← Lemmas.WrapWords.lstrip_words text, h0]
  · rw [he] at h; cases h
  · exact Lemmas.WrapWhole.wrapTail_words hh (he ▸ h)

open GapicModel.Model.Wrap in
/-- **`wrap` returns (raises nothing) whenever `0 < width` and `offset < width`** — the property's own
bounds; together with `wrap_words_preserved` this is word preservation for every call in the quantifier.
(`none` in the model stands for the ValueError of `textwrap` on a non-positive width and for the former
IndexError on a blank first line.) -/
theorem wrap_never_raises (text : List Char) (width : Int) (offset : Option Int) (indent : Nat)
    (hw : 0 < width) (ho : offset.getD indent < width) : (wrap T text width offset indent).isSome = true := by
  rcases Lemmas.WrapWhole.wrap_spec text width offset indent with ⟨-, he⟩ | ⟨hw0, -⟩ | ⟨g, E, text', -, he⟩
  · rw [he]; rfl
  · omega
  · rw [he]; exact Lemmas.WrapWhole.wrapTail_isSome _ text' width indent hw

open GapicModel.Model.Wrap in
/-- non-vacuity of `wrap_words_preserved` / `wrap_never_raises`: a text that is really re-wrapped -/
example : wrap T "foo bar baz".toList 5 none 0 = some "foo\nbar\nbaz".toList ∧
    words T "foo\nbar\nbaz".toList = ["foo".toList, "bar".toList, "baz".toList] := by
  simp -index only [String.toList_ofList]
  decide +kernel

open GapicModel.Model.Wrap in
/-- the tab input that lost the word "eta" before the C20 `fix:` commit keeps all its words now -/
theorem wrap_tab_regression :
    wrap Pinned.classTables "alpha\tbeta gamma delta epsilon zeta eta theta iota kappa".toList 40 none 0
      = some "alpha   beta gamma delta epsilon zeta\neta theta iota kappa".toList := by
  simp -index only [String.toList_ofList]
  decide +kernel

open GapicModel.Model.Wrap in
/-- the input that repeated the tail of its first word before `fix:` be75097 (leading whitespace, first word
wider than the line): one word in, one word out -/
theorem wrap_leading_ws_regression :
    wrap Pinned.classTables ("   " ++ "xxxxxxxxxxxxxxxxxxxxxxxxxxxxxx").toList 20 none 0
      = some "xxxxxxxxxxxxxxxxxxxxxxxxxxxxxx".toList := by
  simp -index only [String.toList_append, String.toList_ofList]
  decide +kernel

open GapicModel.Model.Wrap in
/-- the blank first line that raised IndexError before `fix:` be75097 -/
theorem wrap_blank_regression : wrap Pinned.classTables "     ".toList 4 none 0 = some [] := by
  simp -index only [String.toList_ofList]
  decide +kernel

open GapicModel.Model.Wrap GapicModel.Lemmas.WrapWidth in
/-- **Wrapping never exceeds the requested width except for a single unbreakable word** — `lines.wrap` as a
whole, string level: every line (`out.split("\n")`) of the result has at most `width` characters or is ONE
unbreakable word (no ASCII whitespace — what `textwrap` may break at) behind an indent of spaces
(`LineOK`/`OneChunk`, `Lemmas/WrapWidth.lean`), and the first line has at most `width - offset` characters or
is one unbreakable word. Hypothesis: the offset is not negative (the property's `offset < width` is only
needed for `wrap_never_raises`). -/
theorem wrap_width_bound (text : List Char) (width : Int) (offset : Option Int) (indent : Nat) (out : List Char)
    (ho0 : 0 ≤ offset.getD indent) (h : wrap T text width offset indent = some out) :
    (∀ l ∈ splitOn '\n' out, LineOK width.toNat l) ∧
      (∀ l0, (splitOn '\n' out).head? = some l0 → LineOK (width - offset.getD indent).toNat l0) := by
  rcases Lemmas.WrapWhole.wrap_spec text width offset indent with ⟨-, he⟩ | ⟨-, he⟩ | ⟨g, E, text', hh, he⟩
  · obtain rfl := Option.some.inj (he.symm.trans h)
    exact ⟨fun l hl => List.mem_singleton.mp hl ▸ LineOK.nil _,
      fun l0 hl0 => Option.some.inj hl0 ▸ LineOK.nil _⟩
  · rw [he] at h; cases h
  · exact Lemmas.WrapWhole.wrapTail_lines hh (by omega) (he ▸ h)

open GapicModel.Model.Wrap GapicModel.Lemmas.WrapWidth in
/-- non-vacuity of `wrap_width_bound`: a line that exceeds the width is exactly the unbreakable-word case -/
example : wrap T "do-not-break me".toList 5 none 0 = some "do-not-break\nme".toList ∧
    OneChunk "do-not-break".toList := by
  simp -index only [String.toList_ofList]
  exact ⟨by decide +kernel, [], _, rfl, by simp, by decide +kernel⟩

open GapicModel.Model.Wrap in
/-- **Comments reach docstrings intact** (plain-text path of `rst()`, the one every comment without a
formatting character takes): for a text without double quotes and backslashes — the characters the quote
guard of `rst()` rewrites on purpose — the words of what is placed in the docstring are exactly the words of
the comment, for every width, indent and `nl`. (`Metadata.doc` only strips or joins the comment's blocks:
`Lemmas.WrapWords.strip_words`.) -/
theorem plain_comment_words_reach_docstring (text : List Char) (width : Int) (indent : Nat) (nl : Option Bool)
    (out : List Char) (hq : '"' ∉ text) (hb : '\\' ∉ text) (h : rstFast T text width indent nl = some out) :
    words T out = words T text := by
  unfold rstFast at h
  split at h
  · simp at h
  · split at h
    · simp at h
    · rename_i answer hans
      obtain rfl := Option.some.inj h
      have hw := wrap_words_preserved text _ _ indent answer hans
      rw [Lemmas.RstWords.rstTail_words answer indent nl (fun hm => hq (Lemmas.Words.mem_of_words_eq hw '"' (by decide) hm))
        (fun hm => hb (Lemmas.Words.mem_of_words_eq hw '\\' (by decide) hm)), hw]

open GapicModel.Model.Wrap in
/-- non-vacuity: a comment that is re-wrapped on the fast path -/
example : rstFast T "The quick brown fox jumps over the lazy dog near the bank".toList 30 4 none
    = some "The quick brown fox\n    jumps over the lazy\n    dog near the bank\n    ".toList := by
  simp -index only [String.toList_ofList]
  decide +kernel

/-- `Metadata.doc` (translated from the current source on every run, `Pinned.Funcs.metadata_doc`) keeps the words of
the comment block it selects: the leading comment if there is one, else the trailing comment, else the
detached comments joined by blank lines -/
theorem doc_words_are_the_comments_words (leading trailing : List Char) (detached : List (List Char)) :
    words T (Pinned.Funcs.metadata_doc leading trailing detached) =
      words T (if leading ≠ [] then leading else if trailing ≠ [] then trailing
               else PyRt.join ['\n', '\n'] detached) := by
  rw [Pinned.Funcs.metadata_doc]
  by_cases h1 : leading ≠ []
  · rw [if_pos (Lemmas.SplitJoin.truthy_iff.mpr h1), if_pos h1]
    exact Lemmas.WrapWords.strip_words leading
  rw [if_neg (mt Lemmas.SplitJoin.truthy_iff.mp h1), if_neg h1]
  by_cases h2 : trailing ≠ []
  · rw [if_pos (Lemmas.SplitJoin.truthy_iff.mpr h2), if_pos h2]
    exact Lemmas.WrapWords.strip_words trailing
  rw [if_neg (mt Lemmas.SplitJoin.truthy_iff.mp h2), if_neg h2]
  by_cases h3 : detached ≠ []
  · rw [if_pos (Lemmas.SplitJoin.truthy_iff.mpr h3)]
  · rw [if_neg (mt Lemmas.SplitJoin.truthy_iff.mp h3), Decidable.not_not.mp h3]
    rfl

open GapicModel.Model.Wrap in
/-- **End to end on the plain-text path**: the words of the docstring text produced from a leading comment
(`rst(meta.doc, …)`, no formatting character, no double quote, no backslash) are the words of the comment -/
theorem leading_comment_words_reach_docstring (leading trailing : List Char) (detached : List (List Char))
    (width : Int) (indent : Nat) (nl : Option Bool) (out : List Char) (hne : leading ≠ [])
    (hq : '"' ∉ leading) (hb : '\\' ∉ leading)
    (h : rstFast T (Pinned.Funcs.metadata_doc leading trailing detached) width indent nl = some out) :
    words T out = words T leading := by
  have hdoc : Pinned.Funcs.metadata_doc leading trailing detached = PyRt.strip leading := by
    rw [Pinned.Funcs.metadata_doc, if_pos (Lemmas.SplitJoin.truthy_iff.mpr hne)]
  rw [hdoc] at h
  have hsub : ∀ c, c ∈ PyRt.strip leading → c ∈ leading := fun c hc =>
    (List.dropWhile_sublist _).subset
      (List.mem_reverse.mp ((List.dropWhile_sublist _).subset (List.mem_reverse.mp hc)))
  rw [plain_comment_words_reach_docstring _ width indent nl out (fun hm => hq (hsub _ hm)) (fun hm => hb (hsub _ hm)) h]
  exact Lemmas.WrapWords.strip_words leading

/-- the colon rule of `wrap` (`re.sub(r":\n([^\n])", r":\n\n\1", text)`), run by the regex engine on the
pattern the translator extracts from the source, IS the plain function `colonSub` the proof reasons about -/
theorem wrapColon_regex_is_colonSub (s : List Char) :
    pySub T Pinned.wrapColon.re Pinned.wrapColonRepl s = Lemmas.WrapColon.colonSub s :=
  Lemmas.WrapColon.pySub_colon s

open GapicModel.Model.Wrap in
/-- `textwrap.fill`, string level: the words of the filled text are the words of the input (any width > 0,
blank indents) -/
theorem textwrap_fill_words_preserved (text : List Char) (width : Int) (ii si : List Char)
    (hii : ∀ c ∈ ii, Model.Wrap.isWs T c = true) (hsi : ∀ c ∈ si, Model.Wrap.isWs T c = true) (out : List Char)
    (h : textwrapFill T text width ii si = some out) : words T out = words T text :=
  Lemmas.TextwrapWords.fill_words text width ii si hii hsi out h

/-! ## Docstring safety of `rst()` (both branches share this tail) -/

/-- a text is safe to place right before the closing `"""` of a (raw) docstring -/
def DocSafe (s : List Char) : Prop :=
  (∀ pre post, s ≠ pre ++ '"' :: '"' :: '"' :: post) ∧ s.getLast? ≠ some '"' ∧ s.getLast? ≠ some '\\'

section AuxDoc
open GapicModel.Model.Wrap

/-- a leading double quote of the result is a copied one -/
theorem replaceTQ_quote {s x : List Char} (h : replaceTQ s = '"' :: x) : ∃ r, s = '"' :: r ∧ replaceTQ r = x := by
  unfold replaceTQ at h
  split at h
  · cases h
  · cases h; exact ⟨_, rfl, rfl⟩
  · cases h

theorem replaceTQ_no_tq (s : List Char) : ∀ pre post, replaceTQ s ≠ pre ++ '"' :: '"' :: '"' :: post := by
  fun_induction replaceTQ s with
  | case1 r ih =>
    intro pre post heq
    match pre with
    | [] | [_] | [_, _] => simp at heq
    | _ :: _ :: _ :: pre =>
      simp only [List.cons_append, List.cons.injEq] at heq
      exact ih pre post heq.2.2.2
  | case2 c r hne ih =>
    intro pre post heq
    cases pre with
    | nil =>
      -- three copied quotes would have been a triple quote of the input
      obtain ⟨rfl, h1⟩ := List.cons.inj heq
      obtain ⟨r1, rfl, h2⟩ := replaceTQ_quote h1
      obtain ⟨r2, rfl, _⟩ := replaceTQ_quote h2
      exact hne r2 rfl rfl
    | cons p pre => exact ih pre post (List.cons.inj heq).2
  | case3 => intro pre post heq; simp at heq

end AuxDoc

open GapicModel.Model.Wrap in
/-- **Text placed in a docstring cannot terminate it early**: whatever `wrap` (or pandoc) produced,
the tail of `rst()` returns a text without a triple double-quote that ends neither in a double quote
nor in a backslash.  All answers, indents and `nl` settings. -/
theorem rst_output_doc_safe (answer : List Char) (indent : Nat) (nl : Option Bool) :
    DocSafe (rstTail answer indent nl) := by
  unfold rstTail
  extract_lets a b
  have hno : ∀ pre post, b ≠ pre ++ '"' :: '"' :: '"' :: post := replaceTQ_no_tq a
  split
  · refine ⟨fun pre post heq => ?_, by simp, by simp⟩
    -- the final `.` is not a quote: a triple quote of `b ++ "."` lies in `b`
    rcases List.eq_nil_or_concat post with rfl | ⟨post', z, rfl⟩
    · simpa using congrArg List.getLast? heq
    · exact hno pre post' (List.append_inj' (t₁ := ['.']) (t₂ := [z]) (by simpa using heq) rfl).1
  · rename_i hlast
    exact ⟨hno, (not_or.mp hlast).1, (not_or.mp hlast).2⟩

open GapicModel.Model.Wrap in
example : rstTail ['a', '"', '"', '"', 'b', '\\'] 4 none = ['a', '\'', '\'', '\'', 'b', '\\', '.'] := by decide +kernel

/-! ## The hand-written list-marker helpers ARE the code's current functions
`Pinned.Funcs.*` are the Lean translations of `gapic/utils/lines.py: is_list_item` and
`get_subsequent_line_indentation_level` produced by harness/pyfun2lean.py; `Bridge.Funcs.*` re-proves on every run that
translating /repo's current source gives the same definitions. -/

section Translated
open GapicModel.PyRt

theorem take2_eq_prefix (s : List Char) (a b : Char) : (s.take 2 == [a, b]) = [a, b].isPrefixOf s := by
  rw [Bool.eq_iff_iff, beq_iff_eq, List.isPrefixOf_iff_prefix, List.prefix_iff_eq_take, eq_comm]
  rfl

theorem slice02 (s : List Char) : slice s (some 0) (some 2) = s.take 2 := by
  simp [slice, normIdx]

theorem numbered_eq (s : List Char) :
    GapicModel.Model.Wrap.numberedList Pinned.classTables s =
      reMatch (.seq .bol (.seq (.seq (.cls false [.digit]) (.star (.cls false [.digit]) true)) (.seq (.chr '.') (.chr ' ')))) s := rfl

theorem isListItem_is_translated (s : List Char) :
    GapicModel.Model.Wrap.isListItem Pinned.classTables s = Pinned.Funcs.is_list_item s := by
  have e : ((s.length : Int) < 3) ↔ s.length < 3 := by omega
  simp only [GapicModel.Model.Wrap.isListItem, Pinned.Funcs.is_list_item, numbered_eq, len, startswith, take2_eq_prefix, e,
    decide_eq_true_eq]

theorem subsequentLevel_is_translated (s : List Char) :
    (GapicModel.Model.Wrap.subsequentLevel Pinned.classTables s : Int) = Pinned.Funcs.get_subsequent_line_indentation_level s := by
  have h2 : len s ≥ 2 ↔ s.length ≥ 2 := by unfold len; omega
  have h4 : len s ≥ 4 ↔ s.length ≥ 4 := by unfold len; omega
  have hin (x : List Char) : strIn x [['-', ' '], ['+', ' ']] = (x == ['-', ' '] || x == ['+', ' ']) := by
    simp only [strIn, List.contains, List.elem]
    cases x == ['-', ' '] <;> cases x == ['+', ' '] <;> rfl
  -- the two conditions of the model and of the translated function correspond one by one
  simp only [GapicModel.Model.Wrap.subsequentLevel, Pinned.Funcs.get_subsequent_line_indentation_level, numbered_eq,
    slice02, hin, Bool.and_eq_true, decide_eq_true_eq, h2, h4]
  split
  · rfl
  · split
    · rename_i h; simp only [h]; rfl
    · rename_i h; simp only [h]; rfl

/-- **`fixWhitespace` IS the code's current `fix_whitespace`**: the three substitutions (patterns re-parsed by CPython from
the current source), their order, `rstrip()` and the final newline, as translated from `gapic/generator/formatter.py` on
every run (`Bridge.Funcs.fix_whitespace`) -/
theorem fixWhitespace_is_translated (s : List Char) :
    GapicModel.Model.Whitespace.fixWhitespace s = Pinned.Funcs.fix_whitespace s := by
  rfl

end Translated

end GapicModel.Props.C20
