import GapicModel.Model.PathHelpers
import GapicModel.Model.ResourceVis
import GapicModel.Lemmas.RegexSound
import GapicModel.Lemmas.C19Vis
import GapicModel.Lemmas.Keyed
import GapicModel.Pinned.Tables
/-
C19 — resource path helpers: `<r>_path` builds and `parse_<r>_path` parses resource names as mutual
inverses (Model/PathHelpers.lean), and every resource a service sees gets its pair (Model/ResourceVis.lean).

The round trip rests on one run of the matcher (`match_build`): on a built path every lazy group `.+?` stops
exactly at the end of its value, because while part of the value is unread what follows the group in the
regex cannot match (`rest_fail`; `Good` is what that needs).  The captures of that run (`capsP`), read through
the group names, are the dictionary `expected`.
-/
namespace GapicModel.Props.C19
open GapicModel.Regex GapicModel.Model.PathHelpers

/-- Hypotheses under which the round trip is proved (DESIGN §7.19):
  * literal text contains no newline;
  * every value is non-empty and newline-free;
  * a variable is followed by a non-empty literal whose first character does not occur in the
    variable's value, or it ends the pattern (so the last variable may contain `/`), or the literal
    that follows it ends the pattern (the last variable before a singleton suffix such as
    `/settings` may hold anything too: `$` pins the suffix to the end). -/
def Good : List Seg → List (List Char) → Prop
  | [], vs => vs = []
  | .lit cs :: r, vs => '\n' ∉ cs ∧ Good r vs
  | .var _ _ :: r, vs =>
      match vs with
      | [] => False
      | v :: vs' =>
        v ≠ [] ∧ '\n' ∉ v ∧
        (match r with
         | [] => True
         | .lit (c :: _) :: r2 => c ∉ v ∨ r2 = []
         | _ => False) ∧ Good r vs'

theorem Good.arity {segs : List Seg} {vals : List (List Char)} (h : Good segs vals) :
    vals.length = (pathArgs segs).length := by
  fun_induction Good segs vals with
  | case1 => simp [h, pathArgs]
  | case2 _ _ _ ih => exact ih h.2
  | case3 => exact h.elim
  | case4 _ _ _ _ _ ih => simp [pathArgs, ih h.2.2.2]

/-- captures produced by a successful parse, most recent first (as the matcher stores them). -/
def capsP : Nat → List Seg → List (List Char) → List (Nat × List Char) → List (Nat × List Char)
  | i, .lit _ :: r, vs, acc => capsP i r vs acc
  | i, .var _ _ :: r, v :: vs, acc => capsP (i+1) r vs ((i, v) :: acc)
  | _, _, _, acc => acc

/-- while a non-empty part `y` of a variable's value `v` is still unread, what follows the variable in the regex
does not match: the pattern ends there (`$`), or the next literal starts with a character `v` does not hold, or that
literal ends the pattern (`$` again) -/
theorem rest_fail (t : ClassTables) (i : Nat) {n mu r v vs} (h : Good (.var n mu :: r) (v :: vs)) (y : List Char)
    (hy : y ≠ []) (hyv : ∀ c ∈ y, c ∈ v) (pre caps) (k : K) :
    m t (seqR (segItems i r ++ [.eol])) ⟨pre, y ++ build r vs, caps⟩ k = none := by
  obtain ⟨-, hnl, hsep, hg⟩ := h
  have hny : '\n' ∉ y := fun h => hnl (hyv _ h)
  match r, hsep, hg with
  | [], _, _ => exact lits_eol_fail t [] y pre caps k hy hny List.not_mem_nil
  | [.lit (c :: L)], .inr rfl, hg =>
    obtain ⟨hL, rfl⟩ := hg
    simpa [segItems, litItems, build] using lits_eol_fail t (c :: L) y pre caps k hy hny hL
  | .lit (c :: L) :: r2, .inl hc, _ =>
    obtain ⟨e, y', rfl⟩ := List.exists_cons_of_ne_nil hy
    rw [segItems, litItems, List.append_assoc, m_seqR_chrs, if_neg]
    intro hp
    exact hc ((List.cons_prefix_cons.mp hp).1 ▸ hyv e List.mem_cons_self)

/-- the matcher, run on a built path, consumes it entirely and records exactly the values. -/
theorem match_build (t : ClassTables) (segs : List Seg) (vals : List (List Char)) (h : Good segs vals) (i : Nat)
    (pre : List Char) (caps : List (Nat × List Char)) :
    m t (seqR (segItems i segs ++ [.eol])) ⟨pre, build segs vals, caps⟩ some
      = some ⟨(build segs vals).reverse ++ pre, [], capsP i segs vals caps⟩ := by
  fun_induction Good segs vals generalizing i pre caps with
  | case1 vs => simp [segItems, build, capsP, seqR, m]
  | case2 cs r vs ih =>
    simp only [segItems, litItems, build, capsP, List.append_assoc]
    rw [m_seqR_chrs, if_pos (List.prefix_append ..)]
    simpa [adv] using ih h.2 i (cs.reverse ++ pre) caps
  | case3 => exact h.elim
  | case4 n mu r v vs ih =>
    obtain ⟨d, x, rfl⟩ := List.exists_cons_of_ne_nil h.1
    obtain ⟨hd, hx⟩ := List.ne_and_not_mem_of_not_mem_cons h.2.1
    simp only [segItems, build, capsP, List.cons_append, m_seqR_cons, varRe, m_group_eq, m_seq_eq,
      m_any_cons, hd.symm, ne_eq, not_false_eq_true, if_true, star_any_lazy]
    -- `.+?` has read `d`: at every proper prefix of `x` the rest of the regex fails, at its end it succeeds
    refine lazySpec_first _ caps x (d :: pre) (build r vs) hx (fun j hj => ?_) ?_
    · exact rest_fail t (i+1) (n := n) (mu := mu) h (x.drop j) (by simpa using hj)
        (fun c hc => List.mem_cons_of_mem _ (List.mem_of_mem_drop hc)) ..
    · have e : x.reverse ++ d :: pre = (d :: x).reverse ++ pre := by simp
      simp only [e, capture_app]
      simpa using ih h.2.2.2 (i+1) ((d :: x).reverse ++ pre) ((i, d :: x) :: caps)

/-- the dictionary a successful parse of a built path is expected to return (in group order). -/
def expected : List Seg → List (List Char) → List (String × List Char)
  | [], _ => []
  | .lit _ :: r, vs => expected r vs
  | .var n _ :: r, v :: vs => (String.ofList n, v) :: expected r vs
  | .var _ _ :: r, [] => expected r []

theorem expected_eq_zip (segs : List Seg) (vals : List (List Char)) :
    expected segs vals = ((pathArgs segs).map String.ofList).zip vals := by
  fun_induction expected segs vals <;> simp [pathArgs, *]

theorem group_capsP_lt (segs : List Seg) (vs) (i : Nat) (acc) (j : Nat) (hj : j < i) :
    St.group? (capsP i segs vs acc) j = St.group? acc j := by
  fun_induction capsP i segs vs acc with
  | case1 _ _ _ _ _ ih => exact ih hj
  | case2 i _ _ _ v _ _ ih => rw [ih (by omega), group?_skip (by omega)]
  | case3 => rfl

theorem groupdict_capsP (segs : List Seg) (vals) (h : vals.length = (pathArgs segs).length) (i : Nat) (acc) :
    (namesFrom i segs).map (fun (n, j) => (n, (St.group? (capsP i segs vals acc) j).getD []))
      = expected segs vals := by
  fun_induction expected segs vals generalizing i acc with
  | case1 => rfl
  | case2 cs r vs ih => exact ih h i acc
  | case3 n mu r v vs ih =>
    simp only [namesFrom, capsP, List.map_cons, ih (Nat.succ.inj h)]
    rw [group_capsP_lt _ _ _ _ _ (Nat.lt_succ_self i), group?_head]
    rfl
  | case4 => cases h

/-- The wildcard pattern `*` never rejects and never raises: the helper returns `{}` for
every string (the regex `^.*$` has no named group, so "accepts anything" is all it can say). -/
theorem wildcard_accepts_all (t : ClassTables) (s : List Char) : parse t [.lit ['*']] s = [] := by
  simp only [parse, pathRegex, if_true]
  cases pyMatch t (seqR [Re.bol, Re.star Re.any true, Re.eol]) s <;> rfl

/-- **Round trip, parse ∘ build** (partial: under `Good`).  For every tokenised pattern and every
list of values satisfying `Good`, the emitted `parse_<r>_path(<r>_path(*vals))` returns exactly
the (name, value) pairs.  Holds for any `\\s\\w\\d` tables (the regex uses none).  Since the C19
`fix:` commit no hypothesis on the literal text is needed beyond "no newline": separators such
as `.` are covered. -/
theorem parse_build_partial (t : ClassTables) (segs : List Seg) (vals : List (List Char))
    (h : Good segs vals) :
    parse t segs (build segs vals) = expected segs vals := by
  by_cases hw : segs = [.lit ['*']]
  · subst hw
    rw [wildcard_accepts_all]
    rfl
  · simp only [parse, pathRegex, hw, if_false, pyMatch, matchAt, List.cons_append, m_seqR_cons, m_bol_eq, if_true,
      match_build t segs vals h 1 [] [], Option.map, groupdict]
    exact groupdict_capsP segs vals h.arity 1 []

/-- **Round trip, build ∘ parse ∘ build** (partial: under `Good`): rebuilding from the parsed
segments returns the path. -/
theorem rebuild_partial (t : ClassTables) (segs : List Seg) (vals : List (List Char))
    (h : Good segs vals) :
    build segs ((parse t segs (build segs vals)).map (·.2)) = build segs vals := by
  rw [parse_build_partial t segs vals h, expected_eq_zip, List.map_snd_zip (by simp [h.arity])]

/-- A string that does not match the pattern parses to the empty dict. -/
theorem nonmatch_empty (t : ClassTables) (segs : List Seg) (s : List Char)
    (hn : pyMatch t (pathRegex segs).re s = none) : parse t segs s = [] := by
  simp [parse, hn]

/-- `<name>_path` takes exactly the pattern's variables, in order. -/
theorem args_are_variables (segs : List Seg) :
    (namesFrom 1 segs).map (·.1) = (pathArgs segs).map String.ofList := by
  generalize 1 = i
  fun_induction namesFrom i segs <;> simp [pathArgs, *]

/-! ## The round trip in the property's own words

`Good` is what the proof needs.  The statement of C19 speaks of "segment values that do not contain a
delimiter of the pattern (with `/` allowed only inside the trailing `**` variable)" over patterns in
which a variable is followed by a separator or ends the pattern.  `Shape` and `NoDelim` restate
that; `roundtrip_in_quantifier` is the property's sentence, for all patterns and values, and it is
STRONGER than the sentence (the last variable may hold any newline-free text, a value may hold a
separator that belongs to another variable).  What is still excluded — the reason
`parse_build_partial` keeps its suffix — is exactly: an empty value, a newline in a value.  Both are
run on the real code on every run (excluded-point stream) and are listed findings. -/

/-- first character of the literal at the head of the remaining pattern -/
def followDelim : List Seg → List Char
  | .lit (c :: _) :: _ => [c]
  | _ => []

/-- the non-slash delimiters of a pattern: the first character of every literal that follows a variable -/
def delims : List Seg → List Char
  | [] => []
  | .lit _ :: r => delims r
  | .var _ _ :: r => followDelim r ++ delims r

/-- the quantifier's patterns: newline-free literal text; a variable is followed by a non-empty
literal or ends the pattern (no `{a}{b}`) -/
def Shape : List Seg → Prop
  | [] => True
  | .lit cs :: r => '\n' ∉ cs ∧ Shape r
  | .var _ _ :: r =>
      (match r with
       | [] => True
       | .lit (_ :: _) :: _ => True
       | _ => False) ∧ Shape r

/-- the quantifier's values w.r.t. a delimiter set `D`: one value per variable, non-empty, newline-free,
free of every delimiter in `D` — except the LAST variable (it ends the pattern, or only a literal
suffix follows it), which may hold anything (in particular `/`, for `{v=**}`) -/
def NoDelim (D : List Char) : List Seg → List (List Char) → Prop
  | [], vs => vs = []
  | .lit _ :: r, vs => NoDelim D r vs
  | .var _ _ :: _, [] => False
  | .var _ _ :: r, v :: vs => v ≠ [] ∧ '\n' ∉ v ∧ (r = [] ∨ (∃ L, r = [.lit L]) ∨ ∀ c ∈ D, c ∉ v) ∧ NoDelim D r vs

theorem noDelim_good (D : List Char) (segs : List Seg) (vals : List (List Char))
    (hs : Shape segs) (hd : ∀ c ∈ delims segs, c ∈ D) (hv : NoDelim D segs vals) : Good segs vals := by
  fun_induction NoDelim D segs vals with
  | case1 => exact hv
  | case2 cs r vs ih => exact ⟨hs.1, ih hs.2 hd hv⟩
  | case3 => exact hv.elim
  | case4 n mu r v vs ih =>
    refine ⟨hv.1, hv.2.1, ?_, ih hs.2 (fun c hc => hd c (List.mem_append_right _ hc)) hv.2.2.2⟩
    match r, hs.1, hv.2.2.1, hd with
    | [], _, _, _ => trivial
    | .lit (c :: _) :: r2, _, hdl, hd =>
      rcases hdl with h | ⟨L, h⟩ | h
      · cases h
      · exact .inr (List.cons.inj h).2
      · exact .inl (h c (hd c List.mem_cons_self))

/-- `D` is a variable so that one statement serves the pattern's own delimiters (`roundtrip_in_quantifier`) and a
fixed set that holds them (`common_resources_roundtrip`) -/
theorem roundtrip_noDelim (t : ClassTables) (D : List Char) (segs : List Seg) (vals : List (List Char))
    (hs : Shape segs) (hd : ∀ c ∈ delims segs, c ∈ D) (hv : NoDelim D segs vals) :
    parse t segs (build segs vals) = expected segs vals ∧
    build segs ((parse t segs (build segs vals)).map (·.2)) = build segs vals :=
  have hg := noDelim_good D segs vals hs hd hv
  ⟨parse_build_partial t segs vals hg, rebuild_partial t segs vals hg⟩

/-- **The property's sentence**: for every pattern of the quantifier's shape and all values free of
the pattern's delimiters (`/` and the separators that follow a variable; the variable that ends the
pattern is unrestricted), parsing the built path returns exactly the segments and rebuilding from
them returns the path. -/
theorem roundtrip_in_quantifier (t : ClassTables) (segs : List Seg) (vals : List (List Char))
    (hs : Shape segs) (hv : NoDelim ('/' :: delims segs) segs vals) :
    parse t segs (build segs vals) = expected segs vals ∧
    build segs ((parse t segs (build segs vals)).map (·.2)) = build segs vals :=
  roundtrip_noDelim t _ segs vals hs (fun _ => List.mem_cons_of_mem _) hv

/-- all four non-slash separators inside ONE segment, a singleton-free tail `{f=**}` holding `/`:
`as/{a}-{b}_{c}~{d}.{e}/k/{f=**}` with `x1`, `y+`, `z z`, `u`, `v@w`, `p/q-r/s`. -/
example :
    let segs := [.lit "as/".toList, .var "a".toList false, .lit "-".toList, .var "b".toList false,
      .lit "_".toList, .var "c".toList false, .lit "~".toList, .var "d".toList false, .lit ".".toList,
      .var "e".toList false, .lit "/k/".toList, .var "f".toList true]
    Shape segs ∧ NoDelim ('/' :: delims segs) segs
      ["x1".toList, "y+".toList, "z z".toList, "u".toList, "v@w".toList, "p/q-r/s".toList] := by
  -- `"…".toList` becomes a character list first, here and below: evaluating `String` literals is slow in the kernel
  simp -index only [String.toList_ofList]
  simp +decide [Shape, NoDelim]

/-! ## Rebuilding BY NAME: `<r>_path(**parse_<r>_path(path))`

Variable names are opaque strings in the model (`Seg.var name`): nothing above looks inside a name, so
camelCase, Capitalised, digit- or underscore-holding names are covered as they are.  What a caller
writes is `build(**parse(path))`: the builder's parameters are looked up by the NAMES the parser's
groups carry.  `buildKw` (Model/PathHelpers.lean) is that call (a missing name is Python's TypeError / KeyError: `none`). -/

theorem buildKw_of_lookup (segs : List Seg) (vals : List (List Char)) (kv : List (String × List Char))
    (h : vals.length = (pathArgs segs).length) (hl : ∀ p ∈ expected segs vals, kv.lookup p.1 = some p.2) :
    buildKw segs kv = some (build segs vals) := by
  fun_induction expected segs vals with
  | case1 => rfl
  | case2 cs r vs ih => simp [buildKw, build, ih h hl]
  | case3 n mu r v vs ih =>
    have hl := List.forall_mem_cons.mp hl
    simp [buildKw, build, hl.1, ih (Nat.succ.inj h) hl.2]
  | case4 => cases h

/-- **Round trip by name**: for every pattern with distinct variable names (whatever their
spelling) and all `Good` values, `<r>_path(**parse_<r>_path(<r>_path(*vals)))` is the path: the
parser's group names are exactly the builder's parameters. -/
theorem rebuild_by_name (t : ClassTables) (segs : List Seg) (vals : List (List Char))
    (h : Good segs vals) (hd : ((pathArgs segs).map String.ofList).Nodup) :
    buildKw segs (parse t segs (build segs vals)) = some (build segs vals) := by
  rw [parse_build_partial t segs vals h]
  refine buildKw_of_lookup segs vals _ h.arity (Keyed.lookup_of_nodup_keys _ ?_)
  rwa [expected_eq_zip, List.map_fst_zip (by simp [h.arity])]

/-- `keyRings/{keyRing}/cryptoKeys/{CryptoKey}/versions/{version_2=**}`: camelCase, Capitalised and
digit-holding names meet the hypotheses. -/
example :
    let segs := [.lit "keyRings/".toList, .var "keyRing".toList false, .lit "/cryptoKeys/".toList,
      .var "CryptoKey".toList false, .lit "/versions/".toList, .var "version_2".toList true]
    Good segs ["r-1".toList, "K".toList, "1/2".toList] ∧ ((pathArgs segs).map String.ofList).Nodup := by
  simp -index only [String.toList_ofList]
  simp only [Good]
  decide +kernel

/-- the five common resources' patterns (`Service.common_resources`, bridged table
`Pinned.commonResources`), tokenised. -/
def commonSegs : List (List Seg) :=
  [[.lit "projects/".toList, .var "project".toList false],
   [.lit "organizations/".toList, .var "organization".toList false],
   [.lit "folders/".toList, .var "folder".toList false],
   [.lit "billingAccounts/".toList, .var "billing_account".toList false],
   [.lit "projects/".toList, .var "project".toList false, .lit "/locations/".toList, .var "location".toList false]]

/-- the tokenised forms ARE the patterns of the table extracted from the source. -/
theorem common_segs_are_the_table :
    commonSegs.map (fun s => String.ofList (render s)) = GapicModel.Pinned.commonResources.map (·.2) := by
  -- compared as lists of character lists, for the same reason
  rw [← List.map_inj_right (f := String.toList) fun _ _ h => String.toList_injective h]
  simp -index only [commonSegs, Pinned.commonResources, List.map, String.toList_ofList]
  decide +kernel

/-- **the five common resources round-trip** for all values without `/` (the last one
unrestricted): each `common_<x>_path` / `parse_common_<x>_path` pair is emitted from
`path_regex_str` of these patterns. -/
theorem common_resources_roundtrip (t : ClassTables) (segs : List Seg) (hs : segs ∈ commonSegs)
    (vals : List (List Char)) (hv : NoDelim ['/'] segs vals) :
    parse t segs (build segs vals) = expected segs vals ∧
    build segs ((parse t segs (build segs vals)).map (·.2)) = build segs vals := by
  have hshape : ∀ s ∈ commonSegs, Shape s ∧ ∀ c ∈ delims s, c ∈ ['/'] := by
    simp -index only [commonSegs, String.toList_ofList]
    simp [Shape, delims, followDelim]
  exact roundtrip_noDelim t ['/'] segs vals (hshape segs hs).1 (hshape segs hs).2 hv

example : NoDelim ['/'] [.lit "projects/".toList, .var "project".toList false, .lit "/locations/".toList, .var "location".toList false]
    ["p-1".toList, "us/central1".toList] := by
  simp -index only [String.toList_ofList]
  simp +decide [NoDelim]

/-! ## Evaluated points inside the hypotheses: `Good` is satisfiable by non-trivial inputs, and the round trip
on some of them evaluated on the model -/

-- the path regexes hold no character class, so empty class tables do
private def tt : ClassTables := ⟨[], [], []⟩

/-- `shelves/{shelf}/books/{book=**}` with values `s-1`, `b/1` (a `/` inside the trailing variable). -/
example : Good [.lit "shelves/".toList, .var "shelf".toList false, .lit "/books/".toList, .var "book".toList true]
    ["s-1".toList, "b/1".toList] := by
  simp -index only [String.toList_ofList]
  simp only [Good]
  decide +kernel

/-- `projects/{project}/docs/{doc=**}` with values `p-1`, `2024/09/30/notes.txt`: any number of `/`
inside the trailing variable (not just one) lies inside `Good`. -/
example : Good [.lit "projects/".toList, .var "project".toList false, .lit "/docs/".toList, .var "doc".toList true]
    ["p-1".toList, "2024/09/30/notes.txt".toList] := by
  simp -index only [String.toList_ofList]
  simp only [Good]
  decide +kernel

/-- `users/{user}/settings` with the value `al/settings/ice`: the last variable before a singleton
suffix may hold the suffix itself (third disjunct of `Good`). -/
example : Good [.lit "users/".toList, .var "user".toList false, .lit "/settings".toList]
    ["al/settings/ice".toList] := by
  simp -index only [String.toList_ofList]
  simp only [Good]
  decide +kernel

/-- `as/{a}-{b}` : a non-slash separator between two variables of one segment. -/
example : Good [.lit "as/".toList, .var "a".toList false, .lit "-".toList, .var "b".toList false]
    ["xy".toList, "z".toList] := by
  simp -index only [String.toList_ofList]
  simp only [Good]
  decide +kernel

/-- `.` as separator: `as/{a}.{b}` with `xy`, `z` round-trips (before the C19 `fix:` commit of /repo
the unescaped `.` matched the `y`).  Instance of `parse_build_partial`, kept as a regression witness
evaluated on the model. -/
theorem dot_separator_roundtrip :
    parse tt [.lit "as/".toList, .var "a".toList false, .lit ".".toList, .var "b".toList false]
      (build [.lit "as/".toList, .var "a".toList false, .lit ".".toList, .var "b".toList false] ["xy".toList, "z".toList])
    = [("a", "xy".toList), ("b", "z".toList)] := by
  simp -index only [String.toList_ofList]
  decide +kernel

/-- a trailing `{v=**}` value of several segments (`a/b/c`, two `/`) round-trips.  Instance of
`parse_build_partial`, kept as a witness evaluated on the model (a regex that bounds the number
of segments of the `**` group breaks exactly this). -/
theorem multi_segment_tail_roundtrip :
    parse tt [.lit "p/".toList, .var "p".toList false, .lit "/d/".toList, .var "d".toList true]
      (build [.lit "p/".toList, .var "p".toList false, .lit "/d/".toList, .var "d".toList true] ["x".toList, "a/b/c".toList])
    = [("p", "x".toList), ("d", "a/b/c".toList)] := by
  simp -index only [String.toList_ofList]
  decide +kernel

/-- the last variable before a singleton suffix may hold the suffix: `users/{user}/settings` with
`al/settings/ice`.  Instance of `parse_build_partial` (a regex that loses the `$` or the trailing
literal breaks exactly this), evaluated on the model. -/
theorem suffix_inside_last_value_roundtrip :
    parse tt [.lit "users/".toList, .var "user".toList false, .lit "/settings".toList]
      (build [.lit "users/".toList, .var "user".toList false, .lit "/settings".toList] ["al/settings/ice".toList])
    = [("user", "al/settings/ice".toList)] := by
  simp -index only [String.toList_ofList]
  decide +kernel

/-- names with upper-case letters are carried as written, by the parser's groups too:
`rings/{keyRing}/vs/{cryptoKeyVersion=**}` (a builder that re-spells its parameters while the regex
keeps the names breaks `rebuild_by_name` at exactly this input).  Evaluated on the model. -/
theorem camel_case_variables_roundtrip :
    let segs := [.lit "rings/".toList, .var "keyRing".toList false, .lit "/vs/".toList, .var "cryptoKeyVersion".toList true]
    parse tt segs (build segs ["r".toList, "1/2".toList]) = [("keyRing", "r".toList), ("cryptoKeyVersion", "1/2".toList)] ∧
    buildKw segs (parse tt segs (build segs ["r".toList, "1/2".toList])) = some "rings/r/vs/1/2".toList := by
  simp -index only [String.toList_ofList]
  decide +kernel

/-- `Good` is weaker than the quantifier's exclusion: a value may hold a separator of the pattern
that does not follow ITS variable (`as/{a}-{b}_{c}` with `x_y`, `u`, `w`).  Witness evaluated on the
model; the same point is compared with the real code by the beyond-quantifier stream. -/
theorem other_separator_in_value_roundtrip :
    parse tt [.lit "as/".toList, .var "a".toList false, .lit "-".toList, .var "b".toList false, .lit "_".toList, .var "c".toList false]
      (build [.lit "as/".toList, .var "a".toList false, .lit "-".toList, .var "b".toList false, .lit "_".toList, .var "c".toList false]
        ["x_y".toList, "u".toList, "w".toList])
    = [("a", "x_y".toList), ("b", "u".toList), ("c", "w".toList)] := by
  simp -index only [String.toList_ofList]
  decide +kernel

/-! ## What the hypotheses exclude: concrete counterexamples on the model (each is replayed on the
real code by the excluded-point stream of the C19 check) -/

/-- a value containing a newline does not survive (`.` does not match `\n`). -/
theorem newline_counterexample :
    parse tt [.lit "p/".toList, .var "a".toList false] (build [.lit "p/".toList, .var "a".toList false] ["x\ny".toList])
    = [] := by
  simp -index only [String.toList_ofList]
  decide +kernel

/-- an empty value does not survive (`.+?` needs one character). -/
theorem empty_segment_counterexample :
    parse tt [.lit "p/".toList, .var "a".toList false] (build [.lit "p/".toList, .var "a".toList false] [[]])
    = [] := by
  simp -index only [String.toList_ofList]
  decide +kernel

/-- a value holding the separator that follows its variable — excluded by the property's own
quantifier and by `Good` — is split at the FIRST separator: `as/{a}-{b}` with `x-y`, `z`. -/
theorem delimiter_in_value_counterexample :
    parse tt [.lit "as/".toList, .var "a".toList false, .lit "-".toList, .var "b".toList false]
      (build [.lit "as/".toList, .var "a".toList false, .lit "-".toList, .var "b".toList false] ["x-y".toList, "z".toList])
    = [("a", "x".toList), ("b", "y-z".toList)] := by
  simp -index only [String.toList_ofList]
  decide +kernel

/-- two variables with nothing between them (`p/{a}{b}`, outside `Shape`): the first one gets one
character. -/
theorem adjacent_variables_counterexample :
    parse tt [.lit "p/".toList, .var "a".toList false, .var "b".toList false]
      (build [.lit "p/".toList, .var "a".toList false, .var "b".toList false] ["xy".toList, "z".toList])
    = [("a", "x".toList), ("b", "yz".toList)] := by
  simp -index only [String.toList_ofList]
  decide +kernel

/-! ## Which resources a service sees, and which helper each one gets (Model/ResourceVis.lean) -/

section Visibility
open GapicModel.Model.ResourceVis GapicModel.Lemmas.C19Vis

/-- the property's "visible to a service", declaratively: a resource is visible iff some message
reachable (through message-typed fields, any depth, cycles allowed) from the request type or from the
response type of a method — for a long-running method the operation's `response_type` — either IS
that resource or has a field whose `resource_reference` (type or child_type) names it in the API-wide
table of file-level definitions and message resources (nested messages included). -/
def Visible (api : Api) (ms : List Method) (r : Res) : Prop :=
  ∃ me ∈ ms, ∃ root, (root = me.input ∨ root = me.effOutput) ∧
    ∃ n m, Reach api root n ∧ api.findMsg n = some m ∧
      (m.res = some r ∨ ∃ f ∈ m.fields, ∃ t, f.ref = some t ∧ lookupRes api t = some r)

theorem mem_msgResources (api : Api) (m : Message) (r : Res) :
    r ∈ msgResources api m ↔
      (m.res = some r ∨ ∃ f ∈ m.fields, ∃ t, f.ref = some t ∧ lookupRes api t = some r) := by
  simp only [msgResources, List.mem_append, Option.mem_toList, List.mem_filterMap, Option.bind_eq_some_iff]

theorem mem_resourcesOf (api : Api) (root : Name) (r : Res) :
    r ∈ resourcesOf api root ↔ ∃ n m, Reach api root n ∧ api.findMsg n = some m ∧ r ∈ msgResources api m := by
  simp only [resourcesOf, List.mem_flatMap, mem_reachable_iff]
  refine exists_congr fun n => ?_
  cases hm : api.findMsg n <;> simp [nameResources, hm]

/-- **The helper set is exactly the visible set**: `Service.resource_messages` (as the set of
(type, first pattern) observables) holds a resource iff it is `Visible` — for every API, every
nesting depth, recursive messages included. -/
theorem service_resources_exactly_visible (api : Api) (ms : List Method) (r : Res) :
    r ∈ serviceResources api ms ↔ Visible api ms r := by
  simp only [serviceResources, List.mem_flatMap, List.mem_append, Visible, mem_resourcesOf, mem_msgResources,
    or_and_right, exists_or, exists_eq_left]

/-- a resource carried by the response type of a long-running operation is visible even if nothing
else in the service mentions it (the clause seed4_C19 removed). -/
theorem lro_response_resource_visible (api : Api) (ms : List Method) (me : Method) (n : Name)
    (m : Message) (r : Res) (hme : me ∈ ms) (hl : me.lro = some n) (hm : api.findMsg n = some m)
    (hr : m.res = some r) : r ∈ serviceResources api ms := by
  rw [service_resources_exactly_visible]
  have he : n = me.effOutput := by simp [Method.effOutput, hl]
  exact ⟨me, hme, n, Or.inr he, n, m, Reach.refl _, hm, Or.inl hr⟩

/-- every referenced resource that is defined is visible, one helper each (the clause seed3_C19
collapsed): a field of the request naming a type the API-wide table knows. -/
theorem referenced_definition_visible (api : Api) (ms : List Method) (me : Method) (m : Message)
    (f : Field) (t : Name) (r : Res) (hme : me ∈ ms) (hm : api.findMsg me.input = some m)
    (hf : f ∈ m.fields) (ht : f.ref = some t) (hl : lookupRes api t = some r) :
    r ∈ serviceResources api ms := by
  rw [service_resources_exactly_visible]
  exact ⟨me, hme, me.input, Or.inl rfl, me.input, m, Reach.refl _, hm, Or.inr ⟨f, hf, t, ht, hl⟩⟩

/-- what the table can answer: a referenced resource has the type asked for and is a file-level
definition or the resource of a message (top-level or nested) of some file. -/
theorem lookup_is_defined (api : Api) (t : Name) (r : Res) (h : lookupRes api t = some r) :
    r.type = t ∧ ∃ f ∈ api.files, r ∈ f.defs ∨ ∃ n ∈ f.all, ∃ m, api.findMsg n = some m ∧ m.res = some r := by
  obtain ⟨f, hf, hp⟩ := List.exists_of_findSome?_eq_some h
  have hmem := List.mem_of_find?_eq_some hp
  simp only [List.mem_reverse, List.mem_append, List.mem_filterMap, Option.bind_eq_some_iff] at hmem
  exact ⟨by simpa using List.find?_some hp, f, hf, hmem⟩

/-- the `def`s of the class body: one pair per visible resource in emission order, then the common
resources' pairs under their own names (`common_<x>_path`); the last `def` of a name wins. -/
def offeredAll (nm : Res → Name) (rs : List Res) (common : List (Name × Res)) (h : Name) : Option Res :=
  match common.reverse.find? (fun c => c.1 == h) with
  | some c => some c.2
  | none => offered nm rs h

/-- the last `def` of a name wins, so a name that only `r` carries among the emitted resources, and no common
resource, is `r`'s -/
theorem offeredAll_of_unique (nm : Res → Name) (rs : List Res) (common : List (Name × Res)) (r : Res) (hr : r ∈ rs)
    (hu : ∀ a ∈ rs, nm a = nm r → a = r) (hcommon : ∀ c ∈ common, c.1 ≠ nm r) :
    offeredAll nm rs common (nm r) = some r := by
  have hnone : common.reverse.find? (fun c => c.1 == nm r) = none :=
    List.find?_eq_none.mpr fun c hc => by simpa using hcommon c (List.mem_reverse.mp hc)
  rw [offeredAll, hnone]
  exact Keyed.find?_eq_some_of_unique (List.mem_reverse.mpr hr) (beq_self_eq_true _) fun a ha hn =>
    hu a (List.mem_reverse.mp ha) (by simpa using hn)

/-- **Every visible resource has its own helper**, whatever the emission order `rs` of the visible
set — provided helper names are distinct on it (`nm` is injective there) and none is the name of a
common-resource helper.  Both provisos are needed: see the two counterexamples below. -/
theorem helper_for_every_visible_resource (api : Api) (ms : List Method) (nm : Res → Name)
    (rs : List Res) (common : List (Name × Res)) (r : Res)
    (hperm : ∀ x, x ∈ rs ↔ x ∈ serviceResources api ms)
    (hinj : ∀ a ∈ rs, ∀ b ∈ rs, nm a = nm b → a = b)
    (hcommon : ∀ c ∈ common, c.1 ≠ nm r)
    (hv : Visible api ms r) : offeredAll nm rs common (nm r) = some r :=
  have hr : r ∈ rs := (hperm r).mpr ((service_resources_exactly_visible api ms r).mpr hv)
  offeredAll_of_unique nm rs common r hr (fun a ha => hinj a ha r hr) hcommon

/-! ## Visibility: a concrete API, and what the hypotheses of `helper_for_every_visible_resource`
exclude -/

private def rA : Res := ⟨"l/Alpha".toList, "as/{a}".toList⟩
private def rB : Res := ⟨"o/Bravo".toList, "bs/{b}".toList⟩
private def rO : Res := ⟨"l/Out".toList, "os/{o=**}".toList⟩
private def rU : Res := ⟨"o/Unused".toList, "us/{u}".toList⟩

/-- request `Rq` refers to the file-level `o/Bravo` and has a field of the recursive message `Mid`,
which holds an `Alpha`; the method is long-running with response type `Out`; `o/Unused` is defined
but never referenced. -/
private def demoApi : Api :=
  { files := [⟨[rB, rU], ["Rq".toList, "Mid".toList, "Alpha".toList, "Out".toList]⟩],
    msgs := [⟨"Rq".toList, [⟨none, some "o/Bravo".toList⟩, ⟨some "Mid".toList, none⟩], none⟩,
             ⟨"Mid".toList, [⟨some "Mid".toList, none⟩, ⟨some "Alpha".toList, none⟩], none⟩,
             ⟨"Alpha".toList, [⟨none, none⟩], some rA⟩,
             ⟨"Out".toList, [], some rO⟩,
             ⟨"Op".toList, [], none⟩] }
private def demoMethods : List Method := [⟨"Rq".toList, "Op".toList, some "Out".toList⟩]

/-- the model on that API: the referenced definition, the resource two levels down a recursive
message, the LRO response type; not the unreferenced definition. -/
theorem demo_service_resources : serviceResources demoApi demoMethods = [rA, rB, rO] := by
  unfold demoApi demoMethods rA rB rO rU
  simp -index only [String.toList_ofList]
  decide +kernel

/-- the hypotheses of `helper_for_every_visible_resource` hold for it (emission order = any
permutation; here reversed), with the short type name as helper name. -/
example : (∀ x, x ∈ [rO, rA, rB] ↔ x ∈ serviceResources demoApi demoMethods) ∧
    (∀ a ∈ [rO, rA, rB], ∀ b ∈ [rO, rA, rB], shortName a.type = shortName b.type → a = b) ∧
    (∀ c ∈ [("common_project".toList, rU)], c.1 ≠ shortName rA.type) ∧ Visible demoApi demoMethods rA := by
  refine ⟨?_, ?_, ?_, ?_⟩
  · intro x
    rw [demo_service_resources]
    simp only [List.mem_cons, List.not_mem_nil, or_false]
    exact or_rotate
  · unfold rO rA rB
    simp -index only [String.toList_ofList]
    decide +kernel
  · unfold rU rA
    simp -index only [String.toList_ofList]
    decide +kernel
  · exact (service_resources_exactly_visible demoApi demoMethods rA).mp (by rw [demo_service_resources]; simp)

/-- **helper-name collision** (injectivity proviso; listed finding `helper-name-collision:same-short-name`):
two visible resources whose types share the short name get one helper — the pattern of
`bar.example.com/Thing` has none, `thing_path` is the other resource's. -/
theorem helper_name_collision_counterexample :
    let bar : Res := ⟨"bar.example.com/Thing".toList, "bars/{bar}/things/{thing}".toList⟩
    let foo : Res := ⟨"foo.example.com/Thing".toList, "foos/{foo}/things/{thing}".toList⟩
    offeredAll (fun r => shortName r.type) [bar, foo] [] (shortName bar.type) = some foo := by
  simp -index only [String.toList_ofList]
  decide +kernel

/-- **collision with a common-resource helper** (second proviso): a visible resource whose helper
name is `common_project` loses its helper to the common resource `Project`, whose `def` comes later. -/
theorem common_prefix_collision_counterexample :
    let mine : Res := ⟨"lib.example.com/common_project".toList, "foos/{foo}".toList⟩
    let proj : Res := ⟨"cloudresourcemanager.googleapis.com/Project".toList, "projects/{project}".toList⟩
    offeredAll (fun r => shortName r.type) [mine] [("common_project".toList, proj)] (shortName mine.type) = some proj := by
  simp -index only [String.toList_ofList]
  decide +kernel

/-- **regression for /repo 109fab8**: a resource declared on a NESTED message and only referred to by
name IS visible — `Proto.resource_messages` lists every message of the file (top-level ones only
before that commit), so `visible_resources.get` finds it and the helper pair is emitted. -/
theorem nested_resource_reference_regression :
    let inner : Res := ⟨"l/Inner".toList, "inners/{inner}".toList⟩
    let api : Api := { files := [⟨[], ["Outer.Inner".toList, "Outer".toList, "Rq".toList]⟩],
                       msgs := [⟨"Outer".toList, [⟨none, none⟩], none⟩,
                                ⟨"Outer.Inner".toList, [⟨none, none⟩], some inner⟩,
                                ⟨"Rq".toList, [⟨none, some "l/Inner".toList⟩], none⟩,
                                ⟨"E".toList, [], none⟩] }
    serviceResources api [⟨"Rq".toList, "E".toList, none⟩] = [inner] ∧
    offeredAll (fun r => shortName r.type) (serviceResources api [⟨"Rq".toList, "E".toList, none⟩]) []
      "Inner".toList = some inner := by
  simp -index only [String.toList_ofList]
  decide +kernel

/-- **a resource the API itself declares under a common resource TYPE** (file-level
`locations.googleapis.com/Location` with its own pattern, only named by the request) is an ordinary
visible resource: it gets `location_path` for ITS pattern next to `common_location_path` for the
built-in one — the names differ, so neither proviso of `helper_for_every_visible_resource` bites
(the clause seed6_C19 removed). -/
theorem common_typed_declared_resource_regression :
    let own : Res := ⟨"locations.googleapis.com/Location".toList, "organizations/{organization}/locations/{location}".toList⟩
    let builtin : Res := ⟨"locations.googleapis.com/Location".toList, "projects/{project}/locations/{location}".toList⟩
    let api : Api := { files := [⟨[own], ["Rq".toList, "E".toList]⟩],
                       msgs := [⟨"Rq".toList, [⟨none, some "locations.googleapis.com/Location".toList⟩], none⟩,
                                ⟨"E".toList, [], none⟩] }
    let rs := serviceResources api [⟨"Rq".toList, "E".toList, none⟩]
    let nm : Res → Name := fun r => (shortName r.type).map Char.toLower
    rs = [own] ∧
    offeredAll nm rs [("common_location".toList, builtin)] "location".toList = some own ∧
    offeredAll nm rs [("common_location".toList, builtin)] "common_location".toList = some builtin := by
  simp -index only [String.toList_ofList]
  decide +kernel

end Visibility

end GapicModel.Props.C19
