import GapicModel.Model.Mixins
import GapicModel.Pinned.Tables
import GapicModel.Lemmas.Keyed
/-
C17 — mixin RPCs are exposed exactly as configured in the service YAML.
Selection: `mixin_exposed_iff` (an RPC is selected iff its API is listed, it has an http rule, and it is not an IAM RPC the API defines
itself), over the dict lemmas of `section Dict`; what each client and transport then carries.  The four tables (the RPCs of the three APIs,
their canonical types, the gRPC stubs, `MIXINS_MAP`) agree row by row: `tables_agree`, one kernel evaluation over the tables as
character lists, of which the canonical-path, response-type and signature theorems are projections.  REST: `restCall_sent` (the anatomy of
a sent call) under the verb/path/body theorems; the counterexamples of the open findings; one example configuration (`exSelected`).
-/
namespace GapicModel.Props.C17
open GapicModel.Model.Mixins

section Dict

theorem dictGet_dictSet {α : Type} (d : List (String × α)) (k' : String) (v : α) (k : String) :
    dictGet (dictSet d k' v) k = if k' = k then some v else dictGet d k := by
  induction d with
  | nil => simp [dictSet, dictGet]
  | cons hd tl ih =>
    obtain ⟨a, b⟩ := hd
    simp only [dictSet]
    by_cases h : a = k'
    · subst h
      by_cases h2 : a = k <;> simp [dictGet, h2]
    · simp only [h, if_false, dictGet]
      by_cases h2 : a = k
      · subst h2; simp [Ne.symm h]
      · simp [h2, ih]

theorem dictGet_isSome_iff {α : Type} (d : List (String × α)) (k : String) :
    (dictGet d k).isSome ↔ k ∈ keys d := by
  induction d with
  | nil => simp [dictGet, keys]
  | cons hd tl ih =>
    rw [dictGet, keys, List.map_cons, List.mem_cons, ← keys, ← ih]
    split <;> rename_i h
    · simp [h]
    · simp [Ne.symm h]

theorem keys_dictSet {α : Type} (d : List (String × α)) (k' : String) (v : α) (k : String) :
    k ∈ keys (dictSet d k' v) ↔ k = k' ∨ k ∈ keys d := by
  rw [← dictGet_isSome_iff, dictGet_dictSet]
  split
  · rename_i h; simp [h]
  · rename_i h; simp [dictGet_isSome_iff, Ne.symm h]

theorem keys_dictMerge {α : Type} (a b : List (String × α)) (k : String) :
    k ∈ keys (dictMerge a b) ↔ k ∈ keys a ∨ k ∈ keys b := by
  unfold dictMerge
  induction b generalizing a with
  | nil => simp [keys]
  | cons hd tl ih =>
    simp only [List.foldl_cons]
    rw [ih, keys_dictSet]
    simp only [keys, List.map_cons, List.mem_cons, or_assoc]
    exact or_left_comm

theorem dictGet_map {α β : Type} (d : List (String × α)) (f : String → α → β) (k : String) :
    dictGet (d.map fun kv => (kv.1, f kv.1 kv.2)) k = (dictGet d k).map (f k) := by
  induction d with
  | nil => rfl
  | cons hd tl ih =>
    rw [List.map_cons, dictGet, dictGet, ih]
    split <;> rename_i h
    · rw [h]; rfl
    · rfl

theorem mem_of_dictGet {α : Type} {d : List (String × α)} {k : String} {v : α} (h : dictGet d k = some v) :
    (k, v) ∈ d := by
  induction d with
  | nil => cases h
  | cons hd tl ih =>
    rw [dictGet] at h
    split at h <;> rename_i e
    · cases h; exact e ▸ List.mem_cons_self
    · exact List.mem_cons_of_mem _ (ih h)

/-- `next(x for x in d if x[0] == k)` is the dict look-up -/
theorem find?_fst {α : Type} (d : List (String × α)) (k : String) : (d.find? (·.1 == k)).map (·.2) = dictGet d k := by
  induction d with
  | nil => rfl
  | cons kv d ih =>
    rw [List.find?_cons, dictGet]
    by_cases h : kv.1 = k
    · simp [h]
    · rw [beq_false_of_ne h, if_neg h, ih]

theorem mem_dictSet {α : Type} {d : List (String × α)} {k : String} {v : α} {kv : String × α}
    (h : kv ∈ dictSet d k v) : kv = (k, v) ∨ kv ∈ d := by
  induction d with
  | nil => simpa [dictSet] using h
  | cons hd tl ih =>
    simp only [dictSet] at h
    split at h
    · exact (List.mem_cons.1 h).imp_right (List.mem_cons_of_mem _)
    · rcases List.mem_cons.1 h with h | h
      · exact .inr (h ▸ List.mem_cons_self)
      · exact (ih h).imp_right (List.mem_cons_of_mem _)

theorem all_dictSet {α : Type} {P : String × α → Prop} {d : List (String × α)} {k : String} {v : α}
    (hd : ∀ kv ∈ d, P kv) (hk : P (k, v)) : ∀ kv ∈ dictSet d k v, P kv :=
  fun kv h => (mem_dictSet h).elim (· ▸ hk) (hd kv)

theorem all_dictMerge {α : Type} {P : String × α → Prop} {a b : List (String × α)}
    (ha : ∀ kv ∈ a, P kv) (hb : ∀ kv ∈ b, P kv) : ∀ kv ∈ dictMerge a b, P kv :=
  List.foldlRecOn (motive := fun d => ∀ kv ∈ d, P kv) b _ ha fun _ hd kv hkv => all_dictSet hd (hb kv hkv)

end Dict

/-! ## Selection (gapic/schema/api.py) -/

/-- the API is named under `apis` -/
abbrev Listed (y : Yaml) (a : MixinApi) : Prop := a.fullName ∈ y.apis

/-- the YAML has an HTTP rule whose selector is the canonical name of RPC `m` of API `a` -/
abbrev HasRule (y : Yaml) (a : MixinApi) (m : String) : Prop :=
  m ∈ a.methods ∧ ∃ r ∈ y.rules, r.selector = a.fullName ++ "." ++ m

theorem mem_allApis (a : MixinApi) : a ∈ allApis := by cases a <;> simp [allApis]

theorem hasMixin_iff (y : Yaml) (a : MixinApi) : hasMixin y a = true ↔ Listed y a := by
  simp [hasMixin, Listed, List.any_eq_true]

/-- a selector names method `m` of API `a` exactly when it is `<package>.<Service>.<m>` -/
theorem selMethod_iff (a : MixinApi) (sel m : String) :
    selMethod a sel = some m ↔ m ∈ a.methods ∧ sel = a.fullName ++ "." ++ m := by
  unfold selMethod
  constructor
  · intro h
    have hq := List.find?_some h
    exact ⟨List.mem_of_find?_eq_some h, (eq_of_beq hq).symm⟩
  · rintro ⟨hm, rfl⟩
    -- qualifying is injective: no other method has `m`'s qualified name
    exact Keyed.find?_eq_some_of_unique hm BEq.rfl fun _ _ h => (String.append_right_inj _).mp (eq_of_beq h)

/-- the body of the loop of `_get_methods_from_service` -/
def mfStep (a : MixinApi) (d : List (String × Rule)) (r : Rule) : List (String × Rule) :=
  match selMethod a r.selector with
  | some m => dictSet d m r
  | none => d

theorem methodsFrom_eq (a : MixinApi) (rules : List Rule) :
    methodsFrom a rules = rules.foldl (mfStep a) [] := rfl

theorem all_methodsFrom (a : MixinApi) (rules : List Rule) :
    ∀ kv ∈ methodsFrom a rules, kv.2 ∈ rules ∧ selMethod a kv.2.selector = some kv.1 := by
  rw [methodsFrom_eq]
  refine List.foldlRecOn (motive := fun d => ∀ kv ∈ d, kv.2 ∈ rules ∧ selMethod a kv.2.selector = some kv.1)
    rules (mfStep a) (b := []) (fun _ h => nomatch h) fun d hd r hr => ?_
  unfold mfStep
  cases hsel : selMethod a r.selector with
  | none => exact hd
  | some m' => exact all_dictSet hd ⟨hr, hsel⟩

/-- `_get_methods_from_service` returns, for a method of the service, the LAST rule that names it (dict assignment) … -/
theorem methodsFrom_last_rule (a : MixinApi) (rules : List Rule) (m : String) :
    dictGet (methodsFrom a rules) m = rules.reverse.find? (fun r => selMethod a r.selector == some m) := by
  -- started from any dict `d`, the loop answers with that rule, and with `d`'s entry when there is none
  have from_any : ∀ d, dictGet (rules.foldl (mfStep a) d) m =
      (rules.reverse.find? (fun r => selMethod a r.selector == some m)).or (dictGet d m) := by
    induction rules with
    | nil => exact fun _ => rfl
    | cons r rs ih =>
      intro d
      rw [List.foldl_cons, ih, List.reverse_cons, List.find?_append, Option.or_assoc, mfStep, List.find?_singleton]
      congr 1
      cases hsel : selMethod a r.selector with
      | none => rfl
      | some m' =>
        rw [dictGet_dictSet]
        by_cases h : m' = m <;> simp [h]
  rw [methodsFrom_eq, from_any]
  exact Option.or_none

/-- … so its keys are the methods that have a rule. -/
theorem methodsFrom_keys_iff (a : MixinApi) (y : Yaml) (m : String) :
    m ∈ keys (methodsFrom a y.rules) ↔ HasRule y a m := by
  rw [← dictGet_isSome_iff, methodsFrom_last_rule, List.find?_isSome]
  simp only [List.mem_reverse, beq_iff_eq, selMethod_iff, HasRule]
  exact ⟨fun ⟨r, hr, hm, hs⟩ => ⟨hm, r, hr, hs⟩, fun ⟨hm, r, hr, hs⟩ => ⟨r, hr, hm, hs⟩⟩

/-- `_has_iam_overrides`: IAM is listed and ANY service of the API defines ANY IAM RPC that has a rule. -/
theorem iam_overrides_iff (y : Yaml) (api : Api) :
    iamOverrides y api = true ↔
      Listed y .iam ∧ ∃ s ∈ api.services, ∃ m ∈ s, HasRule y .iam m := by
  simp only [iamOverrides, Bool.and_eq_true, hasMixin_iff, List.any_eq_true, List.contains_iff_mem,
    ← methodsFrom_keys_iff, keys, List.mem_map]
  exact and_congr_right fun _ => exists_congr fun s => and_congr_right fun _ =>
    ⟨fun ⟨kv, hkv, h⟩ => ⟨kv.1, h, kv, hkv, rfl⟩, fun ⟨_, h, kv, hkv, e⟩ => ⟨kv, hkv, e ▸ h⟩⟩

theorem included_iff (y : Yaml) (api : Api) (a : MixinApi) :
    included y api a = true ↔ Listed y a ∧ ¬ (a = .iam ∧ iamOverrides y api = true) := by
  cases a <;> simp [included, hasMixin_iff, and_comm]

/-- **`mixin_api_methods`: RPC `m` is selected iff its API is listed, `m` has a rule, and — for IAM —
the API defines no IAM RPC that has a rule.**  (The last conjunct is the code's, not the statement's:
see `iam_override_drops_other_counterexample`.) -/
theorem mixin_exposed_iff (y : Yaml) (api : Api) (m : String) :
    m ∈ keys (mixinApiMethods y api) ↔
      ∃ a, Listed y a ∧ HasRule y a m ∧ ¬ (a = .iam ∧ iamOverrides y api = true) := by
  have step : ∀ (as : List MixinApi) (d : List (String × Rule)),
      m ∈ keys (as.foldl (fun d a => if included y api a then dictMerge d (methodsFrom a y.rules) else d) d) ↔
        m ∈ keys d ∨ ∃ a ∈ as, included y api a = true ∧ HasRule y a m := by
    intro as
    induction as with
    | nil => simp
    | cons a as ih =>
      intro d
      simp only [List.foldl_cons]
      rw [ih]
      simp only [List.mem_cons, exists_eq_or_imp]
      by_cases hinc : included y api a = true
      · simp only [hinc, if_true, keys_dictMerge, methodsFrom_keys_iff, true_and]
        exact or_assoc
      · simp [hinc]
  unfold mixinApiMethods
  rw [step]
  simp only [keys, List.map_nil, List.not_mem_nil, false_or]
  constructor
  · rintro ⟨a, _, hinc, hr⟩
    rw [included_iff] at hinc
    exact ⟨a, hinc.1, hr, hinc.2⟩
  · rintro ⟨a, hl, hr, hno⟩
    exact ⟨a, mem_allApis a, (included_iff y api a).2 ⟨hl, hno⟩, hr⟩

/-- every entry of `mixin_api_methods` carries a rule of the YAML whose selector names that very RPC
(which one: the last, `methodsFrom_last_rule`) -/
theorem mixin_rule_from_yaml (y : Yaml) (api : Api) (m : String) (r : Rule)
    (h : dictGet (mixinApiMethods y api) m = some r) :
    r ∈ y.rules ∧ ∃ a, Listed y a ∧ selMethod a r.selector = some m := by
  refine List.foldlRecOn allApis _ (b := [])
    (motive := fun d => ∀ kv ∈ d, kv.2 ∈ y.rules ∧ ∃ a, Listed y a ∧ selMethod a kv.2.selector = some kv.1)
    (fun _ h => nomatch h) (fun d hd a _ => ?_) (m, r) (mem_of_dictGet h)
  split
  · rename_i hinc
    exact all_dictMerge hd fun kv hkv =>
      (all_methodsFrom a y.rules kv hkv).imp_right fun h2 => ⟨a, ((included_iff y api a).1 hinc).1, h2⟩
  · exact hd

/-- **None are exposed when no mixin API is listed** — whatever rules the YAML carries. -/
theorem none_when_unlisted (y : Yaml) (api : Api) (h : ∀ a, ¬ Listed y a) :
    mixinApiMethods y api = [] ∧ ∀ k, exposedMixins y api ⟨false⟩ k = [] := by
  have h1 : ∀ a, hasMixin y a = false := fun a => Bool.eq_false_iff.mpr fun hh => h a ((hasMixin_iff y a).1 hh)
  have h2 : ∀ a, included y api a = false := fun a => by cases a <;> simp [included, h1]
  exact ⟨by simp [mixinApiMethods, allApis, h2], fun k => by simp [exposedMixins, h1]⟩

/-! The tables as character lists.  The kernel compares `String`s at a price per character that explicit lists do not have,
so the evaluations over the tables (`methods_disjoint`, `tables_agree_chars`, `grpc_paths_injective`) run on their images under
`toList`.  A `…Spec` is such an image with the proof that it is one; its value is whatever rewriting the literals by
`String.toList_ofList` yields, so no table is written twice (the device of `Lemmas/Tables.lean`). -/

def apisSpec : {l // allApis.map (fun a => (a, a.fullName.toList, a.methods.map String.toList)) = l} := by
  apply Subtype.mk; simp -index only [allApis, MixinApi.fullName, MixinApi.methods, List.map, String.toList_ofList]; rfl

theorem api_row (a : MixinApi) : (a, a.fullName.toList, a.methods.map String.toList) ∈ apisSpec.1 :=
  apisSpec.2 ▸ List.mem_map_of_mem (f := fun a : MixinApi => (a, a.fullName.toList, a.methods.map String.toList))
    (mem_allApis a)

theorem methods_disjoint (a a' : MixinApi) (m : String) (h : m ∈ a.methods) (h' : m ∈ a'.methods) : a = a' :=
  (by decide +kernel : ∀ r ∈ apisSpec.1, ∀ r' ∈ apisSpec.1, ∀ k ∈ r.2.2, k ∈ r'.2.2 → r.1 = r'.1)
    _ (api_row a) _ (api_row a') _ (List.mem_map_of_mem h) (List.mem_map_of_mem h')

/-- one unlisted API: none of ITS methods is exposed, whatever the other two do -/
theorem none_of_unlisted_api (y : Yaml) (api : Api) (a : MixinApi) (h : ¬ Listed y a) (m : String)
    (hm : m ∈ a.methods) : m ∉ keys (mixinApiMethods y api) := by
  intro hk
  obtain ⟨a', hl, hr, _⟩ := (mixin_exposed_iff y api m).1 hk
  exact h (methods_disjoint a' a m hr.1 hm ▸ hl)

/-- **IAM mixins yield to same-named RPCs**: an IAM RPC that the API defines itself (and that has a
rule) is never selected as a mixin. -/
theorem iam_yields_to_same_named (y : Yaml) (api : Api) (s : List String) (m : String)
    (hs : s ∈ api.services) (hm : m ∈ s) (hiam : m ∈ MixinApi.iam.methods) :
    m ∉ keys (mixinApiMethods y api) := by
  intro hk
  obtain ⟨a, hl, hr, hno⟩ := (mixin_exposed_iff y api m).1 hk
  obtain rfl := methods_disjoint a .iam m hr.1 hiam
  exact hno ⟨rfl, (iam_overrides_iff y api).2 ⟨hl, s, hs, m, hm, hr⟩⟩

def cexYaml : Yaml := ⟨["google.iam.v1.IAMPolicy"],
  [⟨"google.iam.v1.IAMPolicy.GetIamPolicy", ⟨"get", "/v1/{resource=books/*}:getIamPolicy", ""⟩, []⟩,
   ⟨"google.iam.v1.IAMPolicy.SetIamPolicy", ⟨"post", "/v1/{resource=books/*}:setIamPolicy", "*"⟩, []⟩]⟩
def cexApi : Api := ⟨[["GetBook", "SetIamPolicy"]]⟩

/-- … but the code drops EVERY IAM mixin then, not only the same-named one: `GetIamPolicy` is listed,
has a rule, is not defined by the API — and is not selected, because the API defines `SetIamPolicy`.
(Reproduced on the real generator: finding `iam-override-drops-all`.) -/
theorem iam_override_drops_other_counterexample :
    Listed cexYaml .iam ∧ HasRule cexYaml .iam "GetIamPolicy" ∧ (∀ s ∈ cexApi.services, "GetIamPolicy" ∉ s) ∧
      "GetIamPolicy" ∉ keys (mixinApiMethods cexYaml cexApi) := by
  decide +kernel

/-- when the API defines none of the IAM RPCs that have a rule, selection is exactly "listed and has a rule" -/
theorem mixin_exposed_iff_no_override (y : Yaml) (api : Api) (m : String)
    (h : ∀ s ∈ api.services, ∀ m' ∈ s, ¬ HasRule y .iam m') :
    m ∈ keys (mixinApiMethods y api) ↔ ∃ a, Listed y a ∧ HasRule y a m := by
  rw [mixin_exposed_iff]
  have hno : iamOverrides y api ≠ true := by
    intro ho
    obtain ⟨_, s, hs, m', hm', hr⟩ := (iam_overrides_iff y api).1 ho
    exact h s hs m' hm' hr
  simp only [hno, Bool.false_eq_true, and_false, not_false_eq_true, and_true]

example : (∀ s ∈ (⟨[["GetBook"]]⟩ : Api).services, ∀ m' ∈ s,
    ¬ HasRule ⟨["google.iam.v1.IAMPolicy"], [⟨"google.iam.v1.IAMPolicy.GetIamPolicy", ⟨"get", "/v1/{resource=books/*}", ""⟩, []⟩]⟩ .iam m') := by
  intro s hs m' hm' h
  obtain rfl := List.mem_singleton.1 hs
  obtain rfl := List.mem_singleton.1 hm'
  exact absurd h.1 (by decide +kernel)

/-! ## Proto sub-packages: the `api` a service's templates are rendered with

`Generator._render_template` renders the `%sub/services/%service/…` templates of a service declared in a
file of sub-package `v` of the API with `dataclasses.replace(api, subpackage_view=v)`; every theorem above
speaks about the `Api` that object shows (`FullApi.view`).  A client of the API package sees the whole API;
a client of a sub-package sees that sub-package only — so "the API defines an IAM RPC" is decided per view. -/

theorem mem_view_iff (a : FullApi) (v ms : List String) :
    ms ∈ (a.view v).services ↔ ∃ s ∈ a.services, v <+: s.subpackage ∧ s.methods = ms := by
  simp only [FullApi.view, List.mem_map, List.mem_filter, List.isPrefixOf_iff_prefix, and_assoc]

/-- the API object itself (`subpackage_view = ()`, services of the API package): every service of the API -/
theorem view_root (a : FullApi) : (a.view []).services = a.services.map (·.methods) := by
  simp only [FullApi.view, List.isPrefixOf]
  rw [List.filter_eq_self.2 (fun _ _ => rfl)]

/-- `_has_iam_overrides` as the templates of service `s` get it: IAM is listed and a service declared in
`s`'s sub-package OR BELOW defines an IAM RPC that has a rule. -/
theorem client_iam_overrides_iff (y : Yaml) (a : FullApi) (s : Svc) :
    iamOverrides y (a.seenBy s) = true ↔
      Listed y .iam ∧ ∃ s' ∈ a.services, s.subpackage <+: s'.subpackage ∧ ∃ m ∈ s'.methods, HasRule y .iam m := by
  simp only [iam_overrides_iff, FullApi.seenBy, mem_view_iff]
  exact and_congr_right fun _ => ⟨fun ⟨_, ⟨s', hs', hp, rfl⟩, h⟩ => ⟨s', hs', hp, h⟩,
    fun ⟨s', hs', hp, h⟩ => ⟨_, ⟨s', hs', hp, rfl⟩, h⟩⟩

/-- **the mixin RPCs of the client of service `s`**: `m` is selected iff its API is listed, `m` has a rule and —
for IAM — no service in the sub-package view of `s` defines an IAM RPC that has a rule.  (`mixin_exposed_iff`
at the `api` object that client is generated from.) -/
theorem client_mixin_exposed_iff (y : Yaml) (a : FullApi) (s : Svc) (m : String) :
    m ∈ keys (mixinApiMethods y (a.seenBy s)) ↔
      ∃ x, Listed y x ∧ HasRule y x m ∧
        ¬ (x = .iam ∧ ∃ s' ∈ a.services, s.subpackage <+: s'.subpackage ∧ ∃ m' ∈ s'.methods, HasRule y .iam m') := by
  simp only [mixin_exposed_iff, client_iam_overrides_iff]
  exact exists_congr fun x => and_congr_right fun hl => and_congr_right fun _ =>
    not_congr ⟨fun ⟨hx, _, h⟩ => ⟨hx, h⟩, fun ⟨hx, h⟩ => ⟨hx, hx ▸ hl, h⟩⟩

/-- IAM mixins yield to a same-named RPC of any service INSIDE the client's view … -/
theorem iam_yields_within_view (y : Yaml) (a : FullApi) (s s' : Svc) (m : String)
    (hs' : s' ∈ a.services) (hp : s.subpackage <+: s'.subpackage) (hm : m ∈ s'.methods)
    (hiam : m ∈ MixinApi.iam.methods) :
    m ∉ keys (mixinApiMethods y (a.seenBy s)) :=
  iam_yields_to_same_named y _ s'.methods m ((mem_view_iff a _ _).2 ⟨s', hs', hp, rfl⟩) hm hiam

/-- … in particular a client of the API package yields to the RPCs of EVERY service of the API, wherever declared. -/
theorem iam_yields_api_package_client (y : Yaml) (a : FullApi) (s s' : Svc) (m : String)
    (hroot : s.subpackage = []) (hs' : s' ∈ a.services) (hm : m ∈ s'.methods) (hiam : m ∈ MixinApi.iam.methods) :
    m ∉ keys (mixinApiMethods y (a.seenBy s)) :=
  iam_yields_within_view y a s s' m hs' (hroot ▸ List.nil_prefix) hm hiam

/-- `Library` (API package) defines `GetIamPolicy`; `Admin` lives in the sub-package `stacks` / in the API package -/
def cexSubApi : FullApi := ⟨[⟨[], ["GetBook", "GetIamPolicy"]⟩, ⟨["stacks"], ["PingBook"]⟩]⟩
def cexFlatApi : FullApi := ⟨[⟨[], ["GetBook", "GetIamPolicy"]⟩, ⟨[], ["PingBook"]⟩]⟩

example : (⟨["stacks", "east"], ["PingBook"]⟩ : Svc) ∈ (⟨[⟨[], ["GetBook"]⟩, ⟨["stacks", "east"], ["PingBook"]⟩]⟩ : FullApi).services ∧
    (⟨["stacks"], ["X"]⟩ : Svc).subpackage <+: ["stacks", "east"] ∧ ([] : List String) = (⟨[], ["GetBook"]⟩ : Svc).subpackage ∧
    "GetIamPolicy" ∈ MixinApi.iam.methods := by
  refine ⟨by simp, ⟨["east"], rfl⟩, rfl, by simp [MixinApi.methods]⟩

/-- … but NOT to an RPC of a service outside the view: the API defines `GetIamPolicy` (ruled, in the service of
the API package), and the client of the sub-package service `Admin` still gets the mixin `GetIamPolicy`;
declared in the API package, the same `Admin` does not, nor does `Library`.  The statement's "RPCs defined by the
API itself" is read by the code as "by the client's own sub-package".  (Reproduced on the real generator:
finding `iam-yield-per-subpackage-view`.) -/
theorem iam_yield_stops_at_view_counterexample :
    Listed cexYaml .iam ∧ HasRule cexYaml .iam "GetIamPolicy" ∧
    (cexSubApi.view []).services = [["GetBook", "GetIamPolicy"], ["PingBook"]] ∧
    "GetIamPolicy" ∈ keys (mixinApiMethods cexYaml (cexSubApi.seenBy ⟨["stacks"], ["PingBook"]⟩)) ∧
    "GetIamPolicy" ∉ keys (mixinApiMethods cexYaml (cexFlatApi.seenBy ⟨[], ["PingBook"]⟩)) ∧
    "GetIamPolicy" ∉ keys (mixinApiMethods cexYaml (cexSubApi.seenBy ⟨[], ["GetBook", "GetIamPolicy"]⟩)) := by
  decide +kernel

/-! ## Selective generation: an API-defined IAM RPC counts whether it is generated public or internal

`_has_iam_overrides` asks `m_name in s.methods` of the services `API.build` left: an RPC generated as INTERNAL
(`generate_omitted_as_internal`) is still there — the mixins yield to it (its transport property and stub keep the
name `set_iam_policy`; a same-named mixin stub would shadow it) —, an OMITTED one is not. -/

theorem generated_ignores_internal (s : SrcSvc) : s.publicised.generated = s.generated := by
  have h : ∀ g : Gen, (g.publicised != .omitted) = (g != .omitted) := fun g => by cases g <;> rfl
  simp only [SrcSvc.generated, SrcSvc.publicised, List.filter_map, List.map_map, Function.comp_def, h]

theorem api_generated_ignores_internal (a : SrcApi) : a.publicised.generated = a.generated := by
  simp only [SrcApi.generated, SrcApi.publicised, List.map_map, Function.comp_def, generated_ignores_internal]

/-- **`is_internal` does not matter**: whether the API's RPCs are generated public or internal, every client of the
library gets the same `_has_iam_overrides` and the same mixin RPCs. -/
theorem iam_overrides_ignores_internal (y : Yaml) (a : SrcApi) (v : List String) :
    iamOverrides y (a.publicised.generated.view v) = iamOverrides y (a.generated.view v) ∧
      mixinApiMethods y (a.publicised.generated.view v) = mixinApiMethods y (a.generated.view v) := by
  rw [api_generated_ignores_internal]
  exact ⟨rfl, rfl⟩

/-- **IAM mixins yield to a same-named RPC that the API defines and the library carries as INTERNAL** (in a service
of the client's view), exactly as to a public one. -/
theorem iam_yields_to_internal_rpc (y : Yaml) (a : SrcApi) (s s' : SrcSvc) (m : String)
    (hs' : s' ∈ a.services) (hp : s.subpackage <+: s'.subpackage) (hm : (m, Gen.internal) ∈ s'.methods)
    (hiam : m ∈ MixinApi.iam.methods) :
    m ∉ keys (mixinApiMethods y (a.generated.seenBy s.generated)) := by
  apply iam_yields_within_view y a.generated s.generated s'.generated m
  · exact List.mem_map_of_mem hs'
  · exact hp
  · simp only [SrcSvc.generated, List.mem_map, List.mem_filter]
    exact ⟨(m, Gen.internal), ⟨hm, rfl⟩, rfl⟩
  · exact hiam

def selLibrary (g : Gen) : SrcSvc := ⟨[], [("GetBook", .pub), ("SetIamPolicy", g)]⟩

example : selLibrary .internal ∈ (⟨[selLibrary .internal]⟩ : SrcApi).services ∧
    (selLibrary .internal).subpackage <+: (selLibrary .internal).subpackage ∧
    ("SetIamPolicy", Gen.internal) ∈ (selLibrary .internal).methods ∧ "SetIamPolicy" ∈ MixinApi.iam.methods := by
  refine ⟨by simp, List.prefix_refl _, by simp [selLibrary], by simp [MixinApi.methods]⟩

/-- the three fates of the API's own `SetIamPolicy` under the YAML of `cexYaml` (IAM listed; `GetIamPolicy` and
`SetIamPolicy` ruled): public and internal make the mixins yield (all of them — `iam_override_drops_other_counterexample`),
omitted leaves nothing to yield to and both mixins are selected. -/
theorem own_rpc_fates_example :
    keys (mixinApiMethods cexYaml ((⟨[selLibrary .pub]⟩ : SrcApi).generated.view [])) = [] ∧
    keys (mixinApiMethods cexYaml ((⟨[selLibrary .internal]⟩ : SrcApi).generated.view [])) = [] ∧
    keys (mixinApiMethods cexYaml ((⟨[selLibrary .omitted]⟩ : SrcApi).generated.view [])) = ["GetIamPolicy", "SetIamPolicy"] := by
  decide +kernel

theorem http_options_from_rule (nm : Names) (y : Yaml) (api : Api) (m : String) :
    dictGet (mixinHttpOptions nm y api) m =
      (dictGet (mixinApiMethods y api) m).map fun r => r.bindings.filterMap (tryParse nm) := by
  unfold mixinHttpOptions
  exact dictGet_map (mixinApiMethods y api) (fun _ r => r.bindings.filterMap (tryParse nm)) m

/-- `try_parse_http_rule` keeps the binding's verb, passes the path through `convert_uri_fieldnames`, drops
`custom`/unset/empty patterns, keeps the body — and appends `_` to a body that is a reserved word (always,
since 3aedaba). -/
theorem tryParse_verb_uri_body (nm : Names) (b : Binding) (r : HttpRule) (h : tryParse nm b = some r) :
    r.method = b.verb ∧ r.uri = convertUri nm.fixPath b.uri ∧ b.verb ≠ "" ∧ b.verb ≠ "custom" ∧ b.uri ≠ "" ∧
      r.body = (if b.body = "" then none else if b.body ∈ nm.reserved then some (b.body ++ "_") else some b.body) := by
  unfold tryParse at h
  by_cases hv : (b.verb == "" || b.verb == "custom") = true
  · rw [if_pos hv] at h; cases h
  by_cases hu : (b.uri == "") = true
  · rw [if_neg hv, if_pos hu] at h; cases h
  rw [if_neg hv, if_neg hu] at h
  cases h
  simp only [Bool.or_eq_true, beq_iff_eq, not_or] at hv hu
  exact ⟨rfl, rfl, hv.1, hv.2, hu, by simp only [beq_iff_eq, List.contains_iff_mem]⟩

example : tryParse ⟨["format"], id⟩ ⟨"post", "/v1/{name=a/*}", "format"⟩ = some ⟨"post", "/v1/{name=a/*}", some "format_"⟩ := by
  decide +kernel

theorem convertUri_ofList (fix : List Char → List Char) (cs : List Char) :
    convertUri fix (String.ofList cs) = String.ofList (renderPieces fix (pieces (cs.length + 1) cs)) := by
  rw [convertUri, String.length_ofList, String.toList_ofList]

/-- `convert_uri_fieldnames` touches nothing but variable names: with a `fix` that leaves the names of a
template alone (no field of the canonical mixin requests is a reserved word) the URI is unchanged — shown on
the shapes the service YAMLs use -/
theorem convertUri_id_examples :
    convertUri id "/v1/{name=projects/*/locations/*}/operations" = "/v1/{name=projects/*/locations/*}/operations" ∧
      convertUri id "/v1/{resource}:getIamPolicy" = "/v1/{resource}:getIamPolicy" ∧
      convertUri (fun n => n ++ ['_']) "/v1/{type=a/*}/x/{id}" = "/v1/{type_=a/*}/x/{id_}" := by
  simp -index only [convertUri_ofList, ← String.toList_inj, String.toList_ofList]
  decide +kernel

/-- the sync and asyncio templates carry the same guards -/
theorem sync_async_alike (y : Yaml) (api : Api) (o : Opts) :
    exposedMixins y api o .sync = exposedMixins y api o .async := rfl

/-- the templates go through the Locations RPCs in the other order (`tmplOperations` and `tmplIam` are the APIs' `methods`) -/
theorem mem_tmplLocations {m : String} : m ∈ tmplLocations ↔ m ∈ MixinApi.locations.methods :=
  List.mem_reverse (as := MixinApi.locations.methods)

/-- **Without the legacy option the clients define exactly the selected mixin RPCs** (so, by
`mixin_exposed_iff`, exactly those listed ∧ with a rule ∧ not IAM-overridden). -/
theorem exposed_iff_selected (y : Yaml) (api : Api) (k : ClientKind) (m : String) :
    m ∈ exposedMixins y api ⟨false⟩ k ↔ m ∈ keys (mixinApiMethods y api) := by
  simp only [exposedMixins, Bool.not_false, Bool.true_and, Bool.false_eq_true, if_false, List.append_nil,
    List.mem_append]
  constructor
  · rintro ((h | h) | h) <;>
    · split at h
      · exact List.contains_iff_mem.1 (List.mem_filter.1 h).2
      · cases h
  · intro h
    obtain ⟨a, hl, hr, _⟩ := (mixin_exposed_iff y api m).1 h
    have hin : ∀ l : List String, m ∈ l →
        m ∈ (if hasMixin y a then l.filter ((keys (mixinApiMethods y api)).contains ·) else []) := fun l hm => by
      rw [if_pos ((hasMixin_iff y a).2 hl)]
      exact List.mem_filter.2 ⟨hm, List.contains_iff_mem.2 h⟩
    cases a
    · exact .inr (hin _ (mem_tmplLocations.2 hr.1))
    · exact .inl (.inr (hin _ hr.1))
    · exact .inl (.inl (hin _ hr.1))

def routingFieldOf (a : MixinApi) : String := if a = .iam then "resource" else "name"

/-- python spelling of a canonical type in MIXINS_MAP (`<module>_pb2.<Name>`; `Empty` is `None`) -/
def pyName (full : String) : String :=
  let cs := full.toList
  let name := (cs.reverse.takeWhile (· != '.')).reverse
  let pkg := String.ofList (cs.take (cs.length - name.length - 1))
  let nm := String.ofList name
  if full = "google.protobuf.Empty" then "None"
  else if pkg = "google.longrunning" then "operations_pb2." ++ nm
  else if pkg = "google.cloud.location" then "locations_pb2." ++ nm
  else if pkg = "google.iam.v1" then (if nm = "Policy" then "policy_pb2." else "iam_policy_pb2.") ++ nm
  else full

/-! The other three tables as character lists (`respL`, `specL`, `pairL` say how a row is spelt), `pyName` as the function on
character lists that rewriting its body yields, and ONE evaluation that goes through the four row by row. -/

def respL : Resp → Option (Option (List Char))
  | .message t => some (some t.toList)
  | .none => some none
  | .rawBytes => none

theorem respL_inj {r r' : Resp} : respL r = respL r' ↔ r = r' :=
  ⟨fun h => by cases r <;> cases r' <;> simp_all [respL, String.toList_inj], congrArg respL⟩

def specL (s : GrpcSpec) : List Char × List Char × Option (Option (List Char)) × List Char :=
  (s.path.toList, s.request.toList, respL s.resp, s.routingField.toList)

abbrev pairL (p : String × String) : List Char × List Char := (p.1.toList, p.2.toList)

def grpcTableSpec : {l // grpcTable.map (fun kv => (kv.1.toList, specL kv.2)) = l} := by
  apply Subtype.mk; simp -index only [grpcTable, List.map, specL, respL, String.toList_ofList]; rfl
def canonicalSpec : {l // canonicalTypes.map (fun kv => (kv.1.toList, pairL kv.2)) = l} := by
  apply Subtype.mk; simp -index only [canonicalTypes, List.map, pairL, String.toList_ofList]; rfl
def mixinsMapSpec : {l // Pinned.mixinsMap.map (fun kv => (kv.1.toList, pairL kv.2)) = l} := by
  apply Subtype.mk; simp -index only [Pinned.mixinsMap, List.map, pairL, String.toList_ofList]; rfl

def pyNameSpec : {f : List Char → List Char // ∀ s, (pyName s).toList = f s.toList} := by
  apply Subtype.mk
  intro s
  simp -index only [pyName, ← String.toList_inj, apply_ite String.toList, String.toList_append, String.toList_ofList]
  -- `s` occurs only as `s.toList` by now: `rfl` reads the function off
  generalize s.toList = cs
  rfl

/-- how the `…Spec` of a `String`-keyed dict `d` is used: what `l` holds under the characters of `k` is the image of `d`'s
entry for `k` -/
theorem dictGet_of_lookup {α β : Type} {d : List (String × α)} {g : α → β} {l : List (List Char × β)}
    (hl : d.map (fun kv => (kv.1.toList, g kv.2)) = l) {k : String} {b : β} (h : l.lookup k.toList = some b) :
    ∃ v, dictGet d k = some v ∧ g v = b := by
  subst hl
  induction d with
  | nil => cases h
  | cons kv d ih =>
    rw [List.map_cons, List.lookup_cons] at h
    rw [dictGet]
    by_cases e : kv.1 = k
    · rw [e, BEq.rfl] at h
      exact ⟨kv.2, if_pos e, Option.some.inj h⟩
    · rw [beq_false_of_ne fun e' => e (String.toList_inj.mp e'.symm)] at h
      exact if_neg e ▸ ih h

/-- `tables_agree` in characters: `r` is the row of the API, `k` the RPC, `t`, `g`, `x` what `canonicalTypes`, `grpcTable`,
`MIXINS_MAP` hold for it -/
theorem tables_agree_chars : ∀ r ∈ apisSpec.1, ∀ k ∈ r.2.2, ∃ t ∈ canonicalSpec.1.lookup k, ∃ g ∈ grpcTableSpec.1.lookup k,
    ∃ x ∈ mixinsMapSpec.1.lookup k,
      g.1 = "/".toList ++ r.2.1 ++ "/".toList ++ k ∧ g.2.1 = t.1 ∧
      g.2.2.1 = (if t.2 = "google.protobuf.Empty".toList then some none else some (some t.2)) ∧
      g.2.2.2 = (if r.1 = .iam then "resource".toList else "name".toList) ∧
      x.1 = pyNameSpec.1 t.1 ∧ x.2 = pyNameSpec.1 t.2 := by
  simp -index only [String.toList_ofList]
  decide +kernel

/-- **The tables agree, row by row**: for RPC `m` of mixin API `a`, with `(req, resp)` its canonical descriptor types, the
stub of the gRPC transports has the path `/<package>.<Service>/<m>`, serialises `req`, deserialises `resp` (`Empty` ↦
`None`) and routes by `name` (`resource` for IAM); and gapic/schema/mixins.py:MIXINS_MAP (bridged from /repo by T1:
`Bridge.mixinsMap`) holds `req` and `resp` in their python spelling — these strings type the REST mixin methods. -/
theorem tables_agree (a : MixinApi) (m : String) (hm : m ∈ a.methods) :
    ∃ req resp s, dictGet canonicalTypes m = some (req, resp) ∧ grpcSpec m = some s ∧
      s.path = "/" ++ a.fullName ++ "/" ++ m ∧ s.request = req ∧
      s.resp = (if resp = "google.protobuf.Empty" then .none else .message resp) ∧
      s.routingField = routingFieldOf a ∧
      dictGet Pinned.mixinsMap m = some (pyName req, pyName resp) := by
  obtain ⟨_, ht, _, hg, _, hx, h⟩ := tables_agree_chars _ (api_row a) _ (List.mem_map_of_mem hm)
  obtain ⟨v, hv, rfl⟩ := dictGet_of_lookup canonicalSpec.2 ht
  obtain ⟨s, hs, rfl⟩ := dictGet_of_lookup grpcTableSpec.2 hg
  obtain ⟨w, hw, rfl⟩ := dictGet_of_lookup mixinsMapSpec.2 hx
  refine ⟨v.1, v.2, s, hv, hs, ?_⟩
  -- the goal's equations, read through `toList` and `respL`, are those of `h`
  rw [hw]
  simp only [Option.some.injEq, Prod.ext_iff, ← String.toList_inj, ← respL_inj, String.toList_append, routingFieldOf,
    apply_ite String.toList, apply_ite respL, pyNameSpec.2]
  exact h

/-- **Canonical paths, request types and routing header field**: for every RPC of the three mixin APIs
the stub's path is `/<package>.<Service>/<Method>`, the request serializer is the canonical input type,
and the routing header is built from `name` (`resource` for IAM). -/
theorem canonical_paths (a : MixinApi) (m : String) (hm : m ∈ a.methods) :
    ∃ s, grpcSpec m = some s ∧ s.path = "/" ++ a.fullName ++ "/" ++ m ∧
      s.routingField = routingFieldOf a ∧ (dictGet canonicalTypes m).map (·.1) = some s.request := by
  obtain ⟨req, resp, s, hc, hs, hp, hq, _, hf, _⟩ := tables_agree a m hm
  exact ⟨s, hs, hp, hf, by rw [hc, hq]; rfl⟩

theorem mixins_map_covers_exactly : Pinned.mixinsMap.length = canonicalTypes.length := by decide +kernel

/-- **Over gRPC the response deserializer is the canonical output type (`Empty` ↦ `None`) for every
mixin RPC** — including `WaitOperation` since the `fix:` commit feb77eb (regression: its stub used
`response_deserializer=None` and the clients returned raw bytes). -/
theorem grpc_response_canonical (m : String) (hm : m ∈ allApis.flatMap (·.methods)) :
    (grpcSpec m).map (·.resp) = canonicalResp m := by
  obtain ⟨a, _, hm⟩ := List.mem_flatMap.mp hm
  obtain ⟨req, resp, s, hc, hs, _, _, hr, _⟩ := tables_agree a m hm
  rw [hs, canonicalResp, hc]
  exact congrArg some hr

/-- regression for feb77eb: `wait_operation` yields an `Operation`, and no stub returns raw bytes -/
theorem wait_operation_grpc_response_regression :
    (grpcSpec "WaitOperation").map (·.resp) = some (.message "google.longrunning.Operation") ∧
      ∀ kv ∈ grpcTable, kv.2.resp ≠ .rawBytes := by
  decide +kernel

/-- a selected mixin RPC, called on either client without the legacy option, goes out with its table entry -/
theorem grpc_call_sent_iff (y : Yaml) (api : Api) (k : ClientKind) (m : String) (s : GrpcSpec) :
    grpcCall y api ⟨false⟩ k m = .sent s ↔ m ∈ keys (mixinApiMethods y api) ∧ grpcSpec m = some s := by
  have hc : (exposedMixins y api ⟨false⟩ k).contains m = decide (m ∈ keys (mixinApiMethods y api)) := by
    rw [Bool.eq_iff_iff, List.contains_iff_mem, exposed_iff_selected, decide_eq_true_iff]
  rw [grpcCall, hc]
  by_cases hk : m ∈ keys (mixinApiMethods y api) <;> cases grpcSpec m <;> simp [hk]

/-- distinct mixin RPCs have distinct stub paths: a call dispatched through another method's stub is
visible on the wire even when both replies have the same type (GetOperation / WaitOperation,
GetIamPolicy / SetIamPolicy) -/
theorem grpc_paths_injective :
    ∀ a ∈ grpcTable, ∀ b ∈ grpcTable, a.2.path = b.2.path → a.1 = b.1 := by
  -- the RPC's name is the last segment of its path
  have key : ∀ kv ∈ grpcTable, kv.1.toList = (kv.2.path.toList.reverse.takeWhile (· != '/')).reverse := fun kv h =>
    (by decide +kernel : ∀ g ∈ grpcTableSpec.1, g.1 = (g.2.1.reverse.takeWhile (· != '/')).reverse)
      _ (grpcTableSpec.2 ▸ List.mem_map_of_mem h)
  intro a ha b hb h
  rw [← String.toList_inj, key a ha, key b hb, h]

theorem signatures_from_map (mm : List (String × String × String)) (y : Yaml) (api : Api) (m : String) :
    dictGet (mixinApiSignatures mm y api) m = (dictGet (mixinApiMethods y api) m).map fun _ => dictGet mm m := by
  simp only [mixinApiSignatures, keys, List.map_map, Function.comp_def, find?_fst]
  exact dictGet_map _ (fun n _ => dictGet mm n) m

/-- every selected RPC has a signature, and it is the canonical pair of types in MIXINS_MAP's spelling
(the REST mixin methods are typed with these strings) -/
theorem signatures_canonical (y : Yaml) (api : Api) (m : String) (hm : m ∈ keys (mixinApiMethods y api)) :
    ∃ t ∈ canonicalTypes, t.1 = m ∧
      dictGet (mixinApiSignatures Pinned.mixinsMap y api) m = some (some (pyName t.2.1, pyName t.2.2)) := by
  obtain ⟨a, _, hr, _⟩ := (mixin_exposed_iff y api m).1 hm
  obtain ⟨req, resp, _, hc, _, _, _, _, _, hx⟩ := tables_agree a m hr.1
  obtain ⟨r, hr⟩ := Option.isSome_iff_exists.mp ((dictGet_isSome_iff _ _).mpr hm)
  exact ⟨(m, req, resp), mem_of_dictGet hc, rfl, by rw [signatures_from_map, hr, hx]; rfl⟩

example : "GetOperation" ∈ keys (mixinApiMethods ⟨["google.longrunning.Operations"],
    [⟨"google.longrunning.Operations.GetOperation", ⟨"get", "/v1/{name=operations/*}", ""⟩, []⟩]⟩ ⟨[["GetBook"]]⟩) := by
  decide +kernel

/-- the wrapped-method tables and the REST transport carry exactly the selected RPCs; the gRPC transports
carry what the clients expose -/
theorem transports_follow_selection (y : Yaml) (api : Api) (o : Opts) (k : ClientKind) :
    wrappedMixins y api = keys (mixinApiMethods y api) ∧ restTransportMixins y api = keys (mixinApiMethods y api) ∧
      grpcTransportMixins y api o = exposedMixins y api o k := by
  cases k <;> exact ⟨rfl, rfl, rfl⟩

/-! ## Legacy `add-iam-methods` -/

/-- **The legacy option puts the three IAM RPCs on the sync and the asyncio client alike**, whatever the YAML. -/
theorem legacy_iam_three_methods_both_clients (y : Yaml) (api : Api) (k : ClientKind) (m : String)
    (hm : m ∈ tmplIam) : m ∈ exposedMixins y api ⟨true⟩ k := by
  simp only [exposedMixins, Bool.not_true, Bool.false_and, Bool.false_eq_true, if_false, if_true, List.append_nil,
    List.mem_append]
  exact Or.inr hm

/-- and the mixin templates then leave IAM to the legacy block (no second definition) -/
theorem legacy_iam_defined_once (y : Yaml) (api : Api) (k : ClientKind) (m : String) (hm : m ∈ tmplIam) :
    (exposedMixins y api ⟨true⟩ k).count m = 1 := by
  have hO : ∀ x ∈ tmplOperations, x ∉ tmplIam := fun x hx hi => nomatch methods_disjoint .operations .iam x hx hi
  have hL : ∀ x ∈ tmplLocations, x ∉ tmplIam := fun x hx hi =>
    nomatch methods_disjoint .locations .iam x (mem_tmplLocations.1 hx) hi
  have hI : ∀ m ∈ tmplIam, tmplIam.count m = 1 := by decide +kernel
  have h0 : ∀ (l : List String) (p : String → Bool), (∀ x ∈ l, x ∉ tmplIam) → (l.filter p).count m = 0 := fun l p hl =>
    List.count_eq_zero.2 fun hx => hl m (List.mem_filter.1 hx).1 hm
  simp only [exposedMixins, Bool.not_true, Bool.false_and, Bool.false_eq_true, if_false, if_true, List.append_nil,
    List.count_append]
  split <;> split <;> simp [h0 _ _ hO, h0 _ _ hL, hI m hm]

/-- **The legacy methods work on both clients, whatever the YAML**: the call goes out on the canonical
IAM path with the canonical types and a `resource` header — on the asyncio client too since the `fix:`
commit 0e4f131 (before it the asyncio methods raised KeyError unless the RPC was also a selected mixin). -/
theorem legacy_call_both_clients (y : Yaml) (api : Api) (k : ClientKind) (m : String) (hm : m ∈ tmplIam) :
    ∃ s, grpcCall y api ⟨true⟩ k m = .sent s ∧ s.path = "/google.iam.v1.IAMPolicy/" ++ m ∧
      s.routingField = "resource" ∧ some s.resp = canonicalResp m := by
  obtain ⟨_, _, s, hc, hs, hp, _, hr, hf, _⟩ := tables_agree .iam m hm
  refine ⟨s, ?_, ?_, hf, ?_⟩
  · rw [grpcCall, List.contains_iff_mem.2 (legacy_iam_three_methods_both_clients y api k m hm), hs]
    rfl
  · rw [hp, ← String.toList_inj, MixinApi.fullName]
    simp -index only [String.toList_append, String.toList_ofList, List.cons_append, List.nil_append]
  · rw [canonicalResp, hc]
    exact congrArg some hr

/-- regression for 0e4f131: with the option alone (no IAM mixin in the YAML — the option's normal use)
the asyncio call is sent exactly as the sync one -/
theorem legacy_async_regression :
    ∀ m ∈ tmplIam, grpcCall ⟨[], []⟩ ⟨[["GetBook"]]⟩ ⟨true⟩ .async m = grpcCall ⟨[], []⟩ ⟨[["GetBook"]]⟩ ⟨true⟩ .sync m ∧
      grpcCall ⟨[], []⟩ ⟨[["GetBook"]]⟩ ⟨true⟩ .async m ≠ .absent := by
  intro m hm
  obtain ⟨s, hs, _⟩ := legacy_call_both_clients ⟨[], []⟩ ⟨[["GetBook"]]⟩ .async m hm
  exact ⟨rfl, by rw [hs]; exact GrpcOutcome.noConfusion⟩

/-- the two clients behave alike on every mixin call -/
theorem grpc_call_sync_async_alike (y : Yaml) (api : Api) (o : Opts) (m : String) :
    grpcCall y api o .sync m = grpcCall y api o .async m := rfl

/-- what applying ONE binding must satisfy (google.api_core.path_template.transcode with a single
option; external, T2-compared): the verb is the binding's, and the transcoded request has a body
exactly when the binding names one. -/
def ApplySpec (ext : Ext) : Prop :=
  ∀ r req t, ext.apply r req = some t → t.method = r.method ∧ (t.body.isSome ↔ r.body.isSome)

/-- the executable reference used by the driver meets the spec -/
theorem refExt_spec : ApplySpec refExt := by
  intro r req t h
  simp only [refExt, refApply] at h
  split at h
  · cases h
  · split at h
    · cases h; simp [*]
    · cases h; simp [*]
    · split at h
      · cases h
      · cases h; simp [*]

/-- anatomy of a call that is sent: the options of the RPC, the transcoded request, and which body travels -/
theorem restCall_sent {ext : Ext} {nm : Names} {y : Yaml} {api : Api} {m : String} {req : Req} {v p : String}
    {body : Option Req} {q : Req} (h : restCall ext nm y api m req = .sent v p body q) :
    ∃ r0 rs t, dictGet (mixinHttpOptions nm y api) m = some (r0 :: rs) ∧ transcode ext (r0 :: rs) req = some t ∧
      v = httpVerb t.method ∧ p = t.uri ∧ q = t.query ∧
      ((r0.body = none ∧ body = none) ∨ (r0.body.isSome = true ∧ t.body.isSome = true ∧ body = t.body)) := by
  unfold restCall at h
  split at h
  · cases h
  · cases h
  · next r0 rs ho =>
    split at h
    · cases h
    · next t ht =>
      refine ⟨r0, rs, t, ho, ht, ?_⟩
      split at h
      · next hb => cases h; exact ⟨rfl, rfl, rfl, .inl ⟨hb, rfl⟩⟩
      · next hb =>
        split at h
        · cases h
        · next htb => cases h; exact ⟨rfl, rfl, rfl, .inr ⟨hb ▸ rfl, htb ▸ rfl, htb.symm⟩⟩

/-- **Over REST the call uses a binding of the YAML rule selected for this RPC**: the verb is that
binding's `pattern` member, the path is that binding's URI template expanded from the request, the query
is what that binding leaves over, and a body, if one is sent, is that binding's body. -/
theorem rest_uses_rule_verb_path_body (ext : Ext) (nm : Names) (y : Yaml) (api : Api) (m : String)
    (req : Req) (v p : String) (body : Option Req) (q : Req)
    (h : restCall ext nm y api m req = .sent v p body q) :
    ∃ rule, dictGet (mixinApiMethods y api) m = some rule ∧
      ∃ b ∈ rule.bindings, ∃ r t, tryParse nm b = some r ∧ ext.apply r req = some t ∧
        r.method = b.verb ∧ r.uri = convertUri nm.fixPath b.uri ∧
        v = httpVerb t.method ∧ p = t.uri ∧ q = t.query ∧ (body = t.body ∨ body = none) := by
  obtain ⟨r0, rs, t, ho, ht, hv, hp, hq, hb⟩ := restCall_sent h
  rw [http_options_from_rule] at ho
  obtain ⟨rule, hrule, hopts⟩ := Option.map_eq_some_iff.mp ho
  obtain ⟨r, hr, happ⟩ := List.exists_of_findSome?_eq_some ht
  rw [← hopts, List.mem_filterMap] at hr
  obtain ⟨b, hb', hparse⟩ := hr
  have hpr := tryParse_verb_uri_body nm b r hparse
  exact ⟨rule, hrule, b, hb', r, t, hparse, happ, hpr.1, hpr.2.1, hv, hp, hq,
    hb.elim (fun h => .inr h.2) (fun h => .inl h.2.2)⟩

/-- **When the bindings of the rule agree on whether there is a body** (in particular when the rule
has a single binding) **the call carries exactly the selected binding's verb, path, body and query.** -/
theorem rest_body_of_uniform_bindings (ext : Ext) (hspec : ApplySpec ext) (nm : Names) (y : Yaml)
    (api : Api) (m : String) (req : Req) (rule : Rule) (r0 : HttpRule) (rs : List HttpRule) (t : Transcoded)
    (hrule : dictGet (mixinApiMethods y api) m = some rule)
    (hopts : rule.bindings.filterMap (tryParse nm) = r0 :: rs)
    (huni : ∀ r ∈ rs, r.body.isSome = r0.body.isSome)
    (ht : transcode ext (r0 :: rs) req = some t) :
    restCall ext nm y api m req = .sent (httpVerb t.method) t.uri t.body t.query := by
  obtain ⟨r, hr, happ⟩ := List.exists_of_findSome?_eq_some ht
  have hb : t.body.isSome = r0.body.isSome := by
    have h2 : r.body.isSome = r0.body.isSome := by
      rcases List.mem_cons.1 hr with rfl | h
      · rfl
      · exact huni r h
    rw [← h2]
    exact Bool.eq_iff_iff.mpr (hspec r req t happ).2
  unfold restCall
  rw [http_options_from_rule]
  cases hb0 : r0.body <;> cases htb : t.body <;> simp_all

example : ApplySpec refExt ∧ (∀ r ∈ ([] : List HttpRule), r.body.isSome = (some "*" : Option String).isSome) :=
  ⟨refExt_spec, by simp⟩

/-- whether a body is sent at all is decided by the FIRST parseable binding (`body_spec =
mixin_http_options[name][0].body` in the templates), not by the binding that was selected -/
theorem rest_body_sent_iff_first_binding_has_body (ext : Ext) (nm : Names) (y : Yaml) (api : Api)
    (m : String) (req : Req) (v p : String) (body : Option Req) (q : Req)
    (h : restCall ext nm y api m req = .sent v p body q) :
    ∃ r0 rs, dictGet (mixinHttpOptions nm y api) m = some (r0 :: rs) ∧ (body.isSome ↔ r0.body.isSome) := by
  obtain ⟨r0, rs, t, ho, _, _, _, _, hb⟩ := restCall_sent h
  refine ⟨r0, rs, ho, ?_⟩
  rcases hb with ⟨h1, rfl⟩ | ⟨h1, h2, rfl⟩
  · simp [h1]
  · simp [h1, h2]

def cexRestYaml : Yaml := ⟨["google.iam.v1.IAMPolicy"],
  [⟨"google.iam.v1.IAMPolicy.GetIamPolicy", ⟨"get", "/v1/{resource=books/*}:getIamPolicy", ""⟩,
      [⟨"post", "/v1/{resource=shelves/*}:getIamPolicy", "*"⟩]⟩,
   ⟨"google.iam.v1.IAMPolicy.SetIamPolicy", ⟨"post", "/v1/{resource=books/*}:setIamPolicy", "*"⟩,
      [⟨"get", "/v1/{resource=shelves/*}:setIamPolicy", ""⟩]⟩]⟩
def cexRestApi : Api := ⟨[["GetBook"]]⟩
def cexRestReq : Req := [("resource", "\"shelves/s1\""), ("options", "{\"requestedPolicyVersion\": 3}")]

/-- a rule whose first binding has no body and whose additional binding has `body: "*"`: the request
matching the additional binding goes out as `POST` with NO body — the non-path fields are lost
(reproduced on the emitted library: finding `rest-body-follows-first-binding`) … -/
theorem rest_mixed_bindings_drop_body_counterexample :
    restCall refExt ⟨[], id⟩ cexRestYaml cexRestApi "GetIamPolicy" cexRestReq
        = .sent "POST" "/v1/shelves/s1:getIamPolicy" none [] ∧
      (refApply ⟨"post", "/v1/{resource=shelves/*}:getIamPolicy", some "*"⟩ cexRestReq).map (·.body)
        = some (some [("options", "{\"requestedPolicyVersion\": 3}")]) := by
  decide +kernel

/-- … and the other way round (first binding with a body, selected binding without) the call raises `KeyError`. -/
theorem rest_mixed_bindings_keyerror_counterexample :
    restCall refExt ⟨[], id⟩ cexRestYaml cexRestApi "SetIamPolicy" cexRestReq = .keyError := by
  decide +kernel

def exYaml : Yaml := ⟨["google.longrunning.Operations", "google.iam.v1.IAMPolicy"],
  [⟨"google.longrunning.Operations.GetOperation", ⟨"get", "/v1/{name=operations/*}", ""⟩, []⟩,
   ⟨"google.longrunning.Operations.WaitOperation", ⟨"post", "/v1/{name=operations/*}:wait", "*"⟩, []⟩,
   ⟨"google.iam.v1.IAMPolicy.GetIamPolicy", ⟨"get", "/v1/{resource=books/*}:getIamPolicy", ""⟩, []⟩,
   ⟨"google.cloud.location.Locations.GetLocation", ⟨"get", "/v1/{name=projects/*/locations/*}", ""⟩, []⟩]⟩
def exApi : Api := ⟨[["GetBook", "SetIamPolicy"]]⟩

/-- the selection for this configuration, evaluated once: the ruled RPCs of the two listed APIs, each with its rule
(`GetLocation` is ruled but not listed; the API's `SetIamPolicy` has no rule, so nothing is overridden).  The `match` names the
four rules of `exYaml` without writing them out a second time. -/
theorem exSelected : mixinApiMethods exYaml exApi =
    match exYaml.rules with
    | [g, w, i, _] => [("GetIamPolicy", i), ("GetOperation", g), ("WaitOperation", w)]
    | _ => [] := by
  decide +kernel

-- `mixin_rule_from_yaml`, `rest_uses_rule_verb_path_body`, `rest_body_of_uniform_bindings`, `rest_body_sent_iff…`
example : dictGet (mixinApiMethods exYaml exApi) "WaitOperation"
    = some ⟨"google.longrunning.Operations.WaitOperation", ⟨"post", "/v1/{name=operations/*}:wait", "*"⟩, []⟩ := by
  rw [exSelected]; decide +kernel
example : restCall refExt ⟨[], id⟩ exYaml exApi "WaitOperation" [("name", "\"operations/o1\""), ("timeout", "\"3s\"")]
    = .sent "POST" "/v1/operations/o1:wait" (some [("timeout", "\"3s\"")]) [] := by
  rw [restCall, mixinHttpOptions, exSelected]; decide +kernel
example : restCall refExt ⟨[], id⟩ exYaml exApi "GetOperation" [("name", "\"operations/o1\"")]
    = .sent "GET" "/v1/operations/o1" none [] := by
  rw [restCall, mixinHttpOptions, exSelected]; decide +kernel
-- `none_of_unlisted_api`: Locations has a rule but is not listed
example : ¬ Listed exYaml .locations ∧ "GetLocation" ∈ MixinApi.locations.methods ∧
    "GetLocation" ∉ keys (mixinApiMethods exYaml exApi) := by
  rw [exSelected]; decide +kernel
-- `iam_yields_to_same_named` (the API's SetIamPolicy has no rule here, so GetIamPolicy stays: `mixin_exposed_iff_no_override`)
example : ["GetBook", "SetIamPolicy"] ∈ exApi.services ∧ "SetIamPolicy" ∈ MixinApi.iam.methods ∧
    "SetIamPolicy" ∉ keys (mixinApiMethods exYaml exApi) ∧ "GetIamPolicy" ∈ keys (mixinApiMethods exYaml exApi) := by
  rw [exSelected]; decide +kernel
-- `grpc_call_sent_iff`, `exposed_iff_selected`
example : grpcCall exYaml exApi ⟨false⟩ .async "GetIamPolicy" = .sent ⟨"/google.iam.v1.IAMPolicy/GetIamPolicy",
    "google.iam.v1.GetIamPolicyRequest", .message "google.iam.v1.Policy", "resource"⟩ := by
  rw [grpcCall, exposedMixins, exSelected]; decide +kernel
-- `none_when_unlisted`
example : ∀ a, ¬ Listed ⟨["google.longrunning.operations"], exYaml.rules⟩ a := by
  intro a
  cases a <;>
    simp -index only [Listed, MixinApi.fullName, List.mem_singleton, ← String.toList_inj, String.toList_ofList] <;>
    decide +kernel
-- `legacy_call_both_clients`
example : "TestIamPermissions" ∈ tmplIam := by simp [tmplIam]

end GapicModel.Props.C17
