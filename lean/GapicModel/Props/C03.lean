import GapicModel.Model.Grpc
import GapicModel.Pinned.Funcs
import GapicModel.Lemmas.Snake
import GapicModel.Lemmas.Split
import GapicModel.Lemmas.Keyed
/-
C03 — gRPC calls reach the right RPC with the caller's request and return the reply.

Theorems about `Model/Grpc.lean` (which follows wrappers.py / metadata.py / the transport and client
templates).  The composite statement is `call_reaches_rpc`; the places where the real code leaves
the statement are the `…_counterexample` theorems (each one is also run on the real generator by
harness/props/c03.py, corpus/C03).
-/
namespace GapicModel.Props.C03
open GapicModel.Model.Grpc

/-- the gRPC wire name of a method (HTTP/2 `:path`), as the gRPC specification gives it -/
def wirePath (package : List Str) (service method : Str) : Str :=
  "/".toList ++ dotted package ++ ".".toList ++ service ++ "/".toList ++ method

/-- **The stub path is built from the WIRE names**: whatever the keyword / transport-unsafe tables
contain, no disambiguating suffix reaches the path of the method's own stub. -/
theorem rpc_path_uses_wire_names (n : Naming) (svc : Service) (m : Method) :
    (mkStub n svc m).path = wirePath svc.package svc.name m.name := by
  simp [mkStub, rpcPath, wirePath]

/-- **The `<proto package>` of the path is the package of the file that DECLARES the service**
(`method.meta.address.package`), not the API's root package (`naming.proto_package`, the common
prefix of the packages being generated): the stub path does not read the naming at all. -/
theorem rpc_path_ignores_api_root (n n' : Naming) (svc : Service) (m : Method) :
    (mkStub n svc m).path = (mkStub n' svc m).path := rfl

/-- … and for a service declared in a sub-package of the API (`acme.zoo.v1.keepers` next to
`acme.zoo.v1`) the two packages differ: the path is `/acme.zoo.v1.keepers.Keepers/GetKeeper`, and a
path built from the API's root package would address an RPC no server implements.  (Run on the real
generator: corpus/C03/service_in_sub_package.json, services_in_nested_sub_package.json.) -/
theorem rpc_path_sub_package_counterexample :
    let n : Naming := { protoPackage := "acme.zoo.v1".toList }
    let a : Addr := ⟨["acme".toList, "zoo".toList, "v1".toList, "keepers".toList], "keepers".toList, [], "Keeper".toList, []⟩
    let m : Method := { name := "GetKeeper".toList, input := a, output := a, clientStreaming := false, serverStreaming := false }
    let svc : Service := { package := a.package, name := "Keepers".toList, methods := [m] }
    inApi n a = true ∧
    (mkStub n svc m).path = "/acme.zoo.v1.keepers.Keepers/GetKeeper".toList ∧
    (mkStub n svc m).path ≠ wirePath [n.protoPackage] svc.name m.name := by
  simp -index only [String.toList_ofList]
  decide +kernel

/-- fully qualified service name, `<proto package>.<Service>` -/
def qualified (svc : Service) : Str := dotted svc.package ++ '.' :: svc.name

theorem rpcPath_eq (svc : Service) (m : Method) : rpcPath svc m = '/' :: qualified svc ++ '/' :: m.name := by
  simp [rpcPath, qualified]

/-- **Services of DIFFERENT packages of one API on one channel are told apart by the path**: when the
qualified service names contain no `/` (protoc: dotted identifiers), equal paths mean the same
qualified service and the same RPC name — `acme.zoo.v1.Keepers` and `acme.zoo.v1.keepers.Keepers`
never collide. -/
theorem rpc_path_qualified_injective (s1 s2 : Service) (m1 m2 : Method)
    (h1 : '/' ∉ qualified s1) (h2 : '/' ∉ qualified s2) (h : rpcPath s1 m1 = rpcPath s2 m2) :
    qualified s1 = qualified s2 ∧ m1.name = m2.name := by
  rw [rpcPath_eq, rpcPath_eq] at h
  exact Split.append_sep_inj '/' h1 h2 (List.cons.inj h).2

example : '/' ∉ qualified { package := ["acme".toList, "zoo".toList, "v1".toList, "keepers".toList], name := "Keepers".toList, methods := [] } := by
  simp -index only [String.toList_ofList]
  decide +kernel

/-- within one service the path determines the RPC name -/
theorem rpc_path_injective (svc : Service) (a b : Method) (h : rpcPath svc a = rpcPath svc b) :
    a.name = b.name := by
  rw [rpcPath_eq, rpcPath_eq] at h
  simpa using h

/-- **Two services of one API on one channel are told apart by the path**: for services of the same
package whose names contain no `/` (protoc: identifiers), equal paths mean the same service name and
the same RPC name — an RPC `Import` of `Library` and an RPC `Import` of `Archive` never collide. -/
theorem rpc_path_service_injective (s1 s2 : Service) (m1 m2 : Method) (hp : s1.package = s2.package)
    (h1 : '/' ∉ s1.name) (h2 : '/' ∉ s2.name) (h : rpcPath s1 m1 = rpcPath s2 m2) :
    s1.name = s2.name ∧ m1.name = m2.name := by
  rw [rpcPath_eq, rpcPath_eq, qualified, qualified, hp] at h
  exact Split.append_sep_inj '/' h1 h2 (by simpa using h)

example : rpcPath { package := [['a']], name := ['L'], methods := [] }
      { name := ['I'], input := ⟨[], [], [], [], []⟩, output := ⟨[], [], [], [], []⟩, clientStreaming := false, serverStreaming := false }
    = ['/', 'a', '.', 'L', '/', 'I'] := by decide

/-- the path ends in `/<Method>` -/
theorem rpc_path_suffix (svc : Service) (m : Method) : ('/' :: m.name) <:+ rpcPath svc m := by
  unfold rpcPath
  exact List.suffix_append _ _

/-- **Stub kind ↔ the two streaming flags** (a bijection onto the four channel factories) -/
theorem stub_kind_exact (m m' : Method) :
    stubKind m = stubKind m' ↔
      (m.clientStreaming = m'.clientStreaming ∧ m.serverStreaming = m'.serverStreaming) :=
  (by decide +kernel : ∀ a b c d : Bool, arity a ++ '_' :: arity b = arity c ++ '_' :: arity d ↔ a = c ∧ b = d) _ _ _ _

/-- the four values, spelled as `grpc.Channel`'s factory methods -/
theorem stub_kind_values (m : Method) :
    stubKind m =
      (match m.clientStreaming, m.serverStreaming with
       | false, false => "unary_unary".toList
       | false, true => "unary_stream".toList
       | true, false => "stream_unary".toList
       | true, true => "stream_stream".toList) := by
  unfold stubKind arity
  simp -index only [String.toList_ofList]
  cases m.clientStreaming <;> cases m.serverStreaming <;> rfl

/-! ## Attribute lookup on a class body (`lastDef`) -/

theorem lastDef_eq_none {α : Type} (l : List (Str × α)) (k : Str) :
    lastDef l k = none ↔ ∀ p ∈ l, p.1 ≠ k := by
  induction l with
  | nil => simp [lastDef]
  | cons p r ih =>
    simp only [lastDef, List.forall_mem_cons, ← ih]
    cases lastDef r k <;> simp

/-- a later part of a class body shadows an earlier one -/
theorem lastDef_append {α : Type} (a b : List (Str × α)) (k : Str) :
    lastDef (a ++ b) k = (lastDef b k).or (lastDef a k) := by
  induction a with
  | nil => simp [lastDef]
  | cons p r ih =>
    simp only [List.cons_append, lastDef, ih]
    cases lastDef b k <;> simp

theorem lastDef_map_eq_none {β α : Type} (f : β → Str) (g : β → α) (l : List β) (k : Str) (h : k ∉ l.map f) :
    lastDef (l.map fun x => (f x, g x)) k = none :=
  (lastDef_eq_none _ _).mpr fun _ hp e => by
    obtain ⟨z, hz, rfl⟩ := List.mem_map.mp hp
    exact h (List.mem_map.mpr ⟨z, hz, e⟩)

/-- in a table built from a list whose keys are pairwise distinct every element finds itself -/
theorem lastDef_map_nodup {β α : Type} (f : β → Str) (g : β → α) (l : List β) (x : β)
    (hn : (l.map f).Nodup) (hx : x ∈ l) :
    lastDef (l.map (fun m => (f m, g m))) (f x) = some (g x) := by
  induction l with
  | nil => cases hx
  | cons y r ih =>
    obtain ⟨hy, hr⟩ := List.nodup_cons.mp hn
    rw [List.map_cons, lastDef]
    rcases List.mem_cons.mp hx with rfl | hx
    · rw [lastDef_map_eq_none f g r _ hy, if_pos rfl]
    · rw [ih hr hx]

/-! ## The three places that name a stub agree -/

/-- base.py.j2 (`_prep_wrapped_messages` keys), grpc*.py.j2 (property names) and the client
(`self._transport.<key>`) use one and the same expression. -/
theorem stub_names_agree (T : Tables) (m : Method) : clientLookupKey T m = stubKey T m := rfl

/-- every key the client looks up is a key of the `_wrapped_methods` dict literal (by name) -/
theorem wrapped_lookup_total (T : Tables) (svc : Service) :
    ∀ m ∈ svc.methods, clientLookupKey T m ∈ svc.methods.map (stubKey T) ++ svc.mixins.map snake := by
  intro m hm
  exact List.mem_append_left _ (List.mem_map.mpr ⟨m, hm, rfl⟩)

/-- What protoc does NOT guarantee and the generator does not establish: forced hypotheses of the
composite theorem, each probed on the real code (corpus/C03). -/
structure WF (T : Tables) (svc : Service) : Prop where
  /-- snake-cased transport-safe names are pairwise distinct -/
  keys : (svc.methods.map (stubKey T)).Nodup
  /-- snake-cased client method names are pairwise distinct -/
  attrs : (svc.methods.map (clientAttr T)).Nodup
  /-- no stub property is shadowed by a member defined later in the transport class body -/
  later : ∀ m ∈ svc.methods, stubKey T m ≠ ['c', 'l', 'o', 's', 'e'] ∧ stubKey T m ≠ ['k', 'i', 'n', 'd'] ∧
            stubKey T m ∉ svc.mixins.map snake
  /-- no proto file of a request/response type is itself named `*_pb2.proto` -/
  modules : ∀ m ∈ svc.methods, endsWithPb2 m.input.module = false ∧ endsWithPb2 m.output.module = false

theorem stub_keys_injective (T : Tables) (svc : Service) (wf : WF T svc) (a b : Method)
    (ha : a ∈ svc.methods) (hb : b ∈ svc.methods) (h : stubKey T a = stubKey T b) : a = b :=
  Keyed.inj_of_nodup_map (stubKey T) wf.keys a ha b hb h

/-- **Attribute lookup on the transport reaches the method's own stub.** -/
theorem stub_lookup_own (T : Tables) (n : Naming) (svc : Service) (wf : WF T svc)
    (m : Method) (hm : m ∈ svc.methods) :
    lastDef (members T n svc) (clientLookupKey T m) = some (.stub (mkStub n svc m)) := by
  obtain ⟨hclose, hkind, hmix⟩ := wf.later m hm
  rw [stub_names_agree, members, lastDef_append, lastDef_append, lastDef_append,
    lastDef_append, lastDef_map_eq_none snake _ svc.mixins _ hmix,
    lastDef_map_nodup (stubKey T) (fun m => Member.stub (mkStub n svc m)) svc.methods m wf.keys hm]
  simp [lastDef, Ne.symm hclose, Ne.symm hkind]

/-- attribute lookup on the client class reaches the method's own definition -/
theorem client_lookup_own (T : Tables) (svc : Service) (wf : WF T svc) (m : Method) (hm : m ∈ svc.methods) :
    clientResolve T svc (clientAttr T m) = some m :=
  lastDef_map_nodup (clientAttr T) (fun m => m) svc.methods m wf.attrs hm

theorem endsWithPb2_append (s : Str) : endsWithPb2 (s ++ ['_', 'p', 'b', '2']) = true := by
  unfold endsWithPb2
  rw [List.isSuffixOf_iff_suffix]
  exact List.suffix_append _ _

/-- **The template's `endswith('_pb2')` test picks the attribute family that exists on the class**,
provided the proto file is not itself called `*_pb2.proto`. -/
theorem serializer_consistent (n : Naming) (a : Addr) (h : endsWithPb2 a.module = false) :
    templCodec n a = runtimeClass n a := by
  unfold templCodec runtimeClass importModule isProtoPlus
  cases h1 : inApi n a
  · cases h2 : n.protoPlusDeps.contains (dotted a.package)
    · simp [endsWithPb2_append]
    · simp [h]
  · simp [h]

/-- the emitted attribute is the pb2 one iff the type is not proto-plus -/
theorem serializer_pb2_iff_not_proto_plus (n : Naming) (a : Addr) (h : endsWithPb2 a.module = false) :
    endsWithPb2 (importModule n a) = true ↔ isProtoPlus n a = false := by
  have := serializer_consistent n a h
  unfold templCodec runtimeClass at this
  cases h1 : endsWithPb2 (importModule n a) <;> cases h2 : isProtoPlus n a <;> simp [h1, h2] at this ⊢

/-- §9-F10: a target file `extra_pb2.proto` — proto-plus class, `SerializeToString` written. -/
theorem serializer_pb2_named_module_counterexample :
    let n : Naming := { protoPackage := "acme.lib.v1".toList }
    let a : Addr := { package := ["acme".toList, "lib".toList, "v1".toList], module := "extra_pb2".toList,
                      parent := [], name := "Extra".toList }
    templCodec n a = .pb2 ∧ runtimeClass n a = .plus := by
  simp -index only [String.toList_ofList]
  decide +kernel

theorem prepAll_ok (ms : List (Str × Member)) (keys : List Str) (h : ∀ k ∈ keys, prepOne ms k = .ok ()) :
    prepAll ms keys = .ok () := by
  induction keys with
  | nil => rfl
  | cons k r ih =>
    simp only [prepAll, h k List.mem_cons_self]
    exact ih fun x hx => h x (List.mem_cons_of_mem _ hx)

/-- `_prep_wrapped_messages` succeeds: every stub can be built -/
theorem construct_ok (T : Tables) (n : Naming) (svc : Service) (wf : WF T svc) :
    construct T n svc = .ok () := by
  refine prepAll_ok _ _ fun k hk => ?_
  obtain ⟨m, hm, rfl⟩ := List.mem_map.mp hk
  have hmod := wf.modules m hm
  rw [prepOne, ← stub_names_agree, stub_lookup_own T n svc wf m hm]
  simp [mkStub, serializer_consistent n m.input hmod.1, serializer_consistent n m.output hmod.2]

/-- the message the statement calls "the equivalent message" -/
def equivMsg {μ δ : Type} (ops : MsgOps μ δ) : Arg μ δ → μ
  | .omitted => ops.empty
  | .dict d => ops.ofDict d
  | .inst x => x
  | .iter _ => ops.empty

/-- **instance ≡ dict ≡ omitted**, for a request type of the method's own package and of any other
package alike, with NO hypothesis on the message class (since fix 59b2075 `elif request is None:`;
before it a falsy instance of another package's proto-plus class was replaced by `T()`). -/
theorem coerce_equiv {μ δ : Type} (ops : MsgOps μ δ) (dp : Bool) (a : Arg μ δ) :
    coerce ops dp a = equivMsg ops a := by
  cases a <;> simp [coerce, equivMsg]

/-- regression for the repaired defect: a message with an explicitly present default value
(`optional int32 n = 0`, falsy for proto-plus) is sent as given, as instance and as dict.
Messages are modelled as the list of (field number, value) pairs that are PRESENT. -/
theorem coerce_falsy_instance_regression :
    let ops : MsgOps (List (Nat × Int)) (List (Nat × Int)) := { empty := [], ofDict := id }
    coerce ops true (.inst [(2, 0)]) = [(2, 0)] ∧ coerce ops true (.dict [(2, 0)]) = [(2, 0)] ∧
    coerce ops true .omitted = [] := by decide

theorem return_shape {ρ : Type} (m : Method) (replies : List ρ) :
    (isVoid m = true → clientReturn m replies = .none) ∧
    (isVoid m = false → m.serverStreaming = true → clientReturn m replies = .stream replies) ∧
    (isVoid m = false → m.serverStreaming = false → ∀ r, replies = [r] → clientReturn m replies = .value r) := by
  refine ⟨?_, ?_, ?_⟩
  · intro h; simp [clientReturn, h]
  · intro h h2; simp [clientReturn, h, h2]
  · intro h h2 r hr; simp [clientReturn, h, h2, hr]

/-- the call is issued exactly once, except by the asyncio method of a void streaming RPC -/
theorem issued_iff (fl : Flavor) (m : Method) :
    issued fl m = false ↔
      (fl = .async ∧ isVoid m = true ∧ (m.serverStreaming = true ∨ m.clientStreaming = true)) := by
  unfold issued
  cases fl <;> cases m.serverStreaming <;> simp

theorem issued_of_not {fl : Flavor} {m : Method}
    (h : ¬ (fl = .async ∧ isVoid m = true ∧ (m.serverStreaming = true ∨ m.clientStreaming = true))) : issued fl m = true :=
  (Bool.not_eq_false _).mp (mt (issued_iff fl m).mp h)

/-- the request argument fits the method's arity -/
def ArgFits {μ δ : Type} (m : Method) (a : Arg μ δ) : Prop :=
  match a with
  | .iter _ => m.clientStreaming = true
  | _ => m.clientStreaming = false

/-- what the server must see -/
def sentSpec {μ δ : Type} (ops : MsgOps μ δ) : Arg μ δ → List μ
  | .iter xs => xs
  | a => [equivMsg ops a]

/-- **C03.** For a well-formed service, every method, both client flavours (except asyncio on a
void streaming RPC), every way of passing the request and every list of replies: the
transport can be constructed and the client method issues exactly one call on the channel, to
`/<package>.<Service>/<Method>`, with the declared arity, carrying the caller's request (instance,
dict and omitted being equivalent), and hands back `None` for Empty, the stream of replies for a
server-streaming RPC and the single reply otherwise. -/
theorem call_reaches_rpc {μ δ ρ : Type} (T : Tables) (n : Naming) (ops : MsgOps μ δ) (fl : Flavor)
    (svc : Service) (wf : WF T svc) (m : Method) (hm : m ∈ svc.methods)
    (arg : Arg μ δ) (hfit : ArgFits m arg)
    (hissued : ¬ (fl = .async ∧ isVoid m = true ∧ (m.serverStreaming = true ∨ m.clientStreaming = true)))
    (replies : List ρ) :
    runCall T n ops fl svc m arg replies =
      .ok { calls := [⟨wirePath svc.package svc.name m.name, stubKind m, sentSpec ops arg⟩],
            ret := clientReturn m replies } := by
  have hi := issued_of_not hissued
  unfold runCall
  simp only [construct_ok T n svc wf, client_lookup_own T svc wf m hm, stub_lookup_own T n svc wf m hm]
  have hp := rpc_path_uses_wire_names n svc m
  cases arg with
  | iter xs =>
    have hcs : m.clientStreaming = true := hfit
    simp [hcs, hi, sentSpec, ← hp, mkStub]
  | _ =>
    have hcs : m.clientStreaming = false := hfit
    simp [hcs, hi, sentSpec, ← hp, mkStub, coerce_equiv ops _]

/-- sync and asyncio clients are observationally equal wherever the asyncio call is issued -/
theorem sync_async_agree {μ δ ρ : Type} (T : Tables) (n : Naming) (ops : MsgOps μ δ)
    (svc : Service) (m : Method) (arg : Arg μ δ) (replies : List ρ)
    (h : ¬ (isVoid m = true ∧ (m.serverStreaming = true ∨ m.clientStreaming = true)))
    (hm : clientResolve T svc (clientAttr T m) = some m) :
    runCall T n ops .async svc m arg replies = runCall T n ops .sync svc m arg (ρ := ρ) replies := by
  have : issued .async m = issued .sync m := issued_of_not fun h' => h h'.2
  unfold runCall
  simp only [hm, this]

/-! ## Channel identity: several transports of one service in one process -/

theorem lookup_getStub (cache : StubCache) (k k' : Str) (chan : Nat) :
    (getStub cache k chan).1.lookup k' = (cache.lookup k').or (if k' = k then some chan else none) := by
  unfold getStub
  by_cases e : k' = k
  · subst e; cases hk : cache.lookup k' <;> simp [List.lookup, hk]
  · cases cache.lookup k <;> simp [List.lookup, e, beq_false_of_ne e]

theorem callChannel_eq (cache : StubCache) (k : Str) (chan : Nat) :
    callChannel cache k chan = (cache.lookup k).getD chan := by
  unfold callChannel getStub
  cases cache.lookup k <;> rfl

theorem lookup_getStub_self (cache : StubCache) (k : Str) (chan : Nat) :
    (getStub cache k chan).1.lookup k = some (getStub cache k chan).2 := by
  rw [lookup_getStub, if_pos rfl, ← callChannel, callChannel_eq]
  cases cache.lookup k <;> rfl

/-- **the stub cache after `_prep_wrapped_messages`**: what was bound before stays as it was, and every key touched that
was not bound is bound to the transport's own channel -/
theorem lookup_prepCache (keys : List Str) (cache : StubCache) (k : Str) (chan : Nat) :
    (prepCache cache keys chan).lookup k = (cache.lookup k).or (if k ∈ keys then some chan else none) := by
  induction keys generalizing cache with
  | nil => simp [prepCache]
  | cons k' r ih =>
    rw [prepCache, List.foldl_cons, ← prepCache, ih, lookup_getStub]
    by_cases e : k = k' <;> cases cache.lookup k <;> simp [e]

/-- **Calls go to the transport's own channel**: a transport constructed as `__init__` does it
(fresh `_stubs`, every stub property evaluated on its own channel) issues every call through ANY key on
its own channel — whatever other transports of the same service exist in the process, since nothing
of them enters `initTransport`. -/
theorem calls_go_to_own_channel (keys : List Str) (chan : Nat) (k : Str) :
    callChannel (initTransport keys chan) k chan = chan := by
  rw [callChannel_eq, initTransport, lookup_prepCache]
  split <;> rfl

/-- what the per-instance `self._stubs = {}` is for: a transport that fills a cache INHERITED from
an earlier transport (the class-level dict) calls on the EARLIER transport's channel. -/
theorem shared_stub_cache_counterexample :
    let keys := [['g', 'e', 't'], ['p', 'u', 't']]
    let first := initTransport keys 1                 -- transport #1 on channel 1
    let second := prepCache first keys 2               -- transport #2 on channel 2, same dict
    callChannel second ['g', 'e', 't'] 2 = 1 ∧ callChannel (initTransport keys 2) ['g', 'e', 't'] 2 = 2 := by decide

/-- in general: a binding already in an inherited cache survives the second construction -/
theorem inherited_binding_wins (keys : List Str) (cache : StubCache) (k : Str) (c chan : Nat)
    (h : cache.lookup k = some c) : callChannel (prepCache cache keys chan) k chan = c := by
  rw [callChannel_eq, lookup_prepCache, h]
  rfl

/-! ## Finite facts about the pinned tables (bridged to /repo by T1) -/

/-- an RPC named like one of the five transport-unsafe names (in any of these spellings) gets its suffix on the transport,
so that its stub property has the name of none of the five other members of the class, and keeps its name on the client -/
theorem unsafe_names_suffixed :
    ∀ w ∈ ["CreateChannel", "GrpcChannel", "OperationsClient", "Close", "Kind", "CLOSE", "kind"],
      snake (transportSafeName pinnedTables w.toList) ∉
        ["create_channel".toList, "grpc_channel".toList, "operations_client".toList, "close".toList, "kind".toList] ∧
      clientMethodName pinnedTables w.toList = w.toList := by
  rw [Lemmas.Snake.pinnedTables_eq]
  simp -index only [List.forall_mem_cons, String.toList_ofList]
  simp only [Lemmas.Snake.snake_eq_scan]
  decide +kernel

/-- all spellings of a word that differ only in letter case -/
def caseVariants : List Char → List (List Char)
  | [] => [[]]
  | c :: r => (caseVariants r).flatMap fun t => [c :: t, Char.ofNat (c.toNat - 32) :: t]

/-- under the pinned tables the first two clauses of `WF.later` hold of every RPC name: `close` and `kind` are
transport-unsafe names, and `stubKey_safe` -/
theorem stubKey_ne_close_kind (n : Str) :
    snake (transportSafeName pinnedTables n) ≠ ['c', 'l', 'o', 's', 'e'] ∧
    snake (transportSafeName pinnedTables n) ≠ ['k', 'i', 'n', 'd'] := by
  have hmem : ['c', 'l', 'o', 's', 'e'] ∈ pinnedTables.unsafeExtra ++ pinnedTables.kw ∧
      ['k', 'i', 'n', 'd'] ∈ pinnedTables.unsafeExtra ++ pinnedTables.kw := by
    rw [Lemmas.Snake.pinnedTables_eq]; decide +kernel
  have h := Lemmas.Snake.stubKey_safe pinnedTables Lemmas.Snake.pinned_no_underscore n
  exact ⟨fun e => h (e ▸ hmem.1), fun e => h (e ▸ hmem.2)⟩

/-- `WF.later` for the names the table is about: EVERY spelling of `close` / `kind` (48 RPC names,
`Close`, `CLOSE`, `kInd`, …) gets a stub key different from the two members defined after the stubs. -/
theorem later_members_never_hit :
    ∀ w ∈ caseVariants ['c', 'l', 'o', 's', 'e'] ++ caseVariants ['k', 'i', 'n', 'd'],
      snake (transportSafeName pinnedTables w) ≠ ['c', 'l', 'o', 's', 'e'] ∧
      snake (transportSafeName pinnedTables w) ≠ ['k', 'i', 'n', 'd'] :=
  fun w _ => stubKey_ne_close_kind w

theorem transportSafeName_of_kw (T : Tables) (n : Str) (h : lower n ∈ T.kw) :
    transportSafeName T n = clientMethodName T n := by
  simp [transportSafeName, clientMethodName, h]

/-- an RPC named like a keyword gets the suffix on the client and on the transport alike -/
theorem keyword_names_suffixed :
    ∀ w ∈ ["Import", "Class", "Global", "Return", "Yield", "Async", "Await", "Not", "from", "IMPORT"],
      snake (clientMethodName pinnedTables w.toList) ∉ pinnedTables.kw ∧
      snake (transportSafeName pinnedTables w.toList) ∉ pinnedTables.kw ∧
      snake (clientMethodName pinnedTables w.toList) = snake (transportSafeName pinnedTables w.toList) := by
  have hnk (n : Str) : snake (clientMethodName pinnedTables n) ∉ pinnedTables.kw :=
    Lemmas.Snake.clientAttr_not_keyword _ Lemmas.Snake.pinned_kw_no_underscore n
  intro w hw
  have hkw : lower w.toList ∈ pinnedTables.kw := by
    revert w
    rw [Lemmas.Snake.pinnedTables_eq]
    simp -index only [String.toList_ofList, List.forall_mem_cons]
    decide +kernel
  rw [transportSafeName_of_kw _ _ hkw]
  exact ⟨hnk _, hnk _, rfl⟩

/-! ## Where the real code leaves the statement (each is replayed on /repo from corpus/C03) -/

deriving instance DecidableEq for Except

def pkg : List Str := ["acme".toList, "lib".toList, "v1".toList]
def nm : Naming := { protoPackage := "acme.lib.v1".toList }
def local_ (name : String) : Addr := { package := pkg, module := "lib".toList, parent := [], name := name.toList }
def emptyA : Addr := { package := ["google".toList, "protobuf".toList], module := "empty".toList, parent := [], name := "Empty".toList }
def meth (name : String) (out : Addr := local_ "Book") (cs ss : Bool := false) : Method :=
  { name := name.toList, input := local_ "Req", output := out, clientStreaming := cs, serverStreaming := ss }
def svcOf (ms : List Method) : Service := { package := pkg, name := "Library".toList, methods := ms }
def natOps : MsgOps Nat Nat := { empty := 0, ofDict := id }

/-- regression (fix 4266af3): an RPC named `Close` — `close` is now a transport-unsafe name, the stub
property is `close_` and is no longer shadowed by `def close(self)`; the call reaches `/…/Close`. -/
theorem close_rpc_regression :
    runCall (ρ := Nat) pinnedTables nm natOps .sync (svcOf [meth "GetBook", meth "Close"]) (meth "Close") (.inst 7) [1]
      = .ok { calls := [⟨"/acme.lib.v1.Library/Close".toList, "unary_unary".toList, [7]⟩], ret := .value 1 } ∧
    stubKey pinnedTables (meth "Close") = "close_".toList ∧ clientAttr pinnedTables (meth "Close") = "close".toList := by
  rw [Lemmas.Snake.pinnedTables_eq]
  unfold svcOf meth local_ pkg nm
  simp -index only [String.toList_ofList]
  decide +kernel

/-- regression (fix 4266af3): an RPC named `Kind` — the transport can be constructed and every
RPC of the service, `Kind` included, is callable. -/
theorem kind_rpc_regression :
    runCall (ρ := Nat) pinnedTables nm natOps .async (svcOf [meth "GetBook", meth "Kind"]) (meth "GetBook") (.inst 7) [1]
      = .ok { calls := [⟨"/acme.lib.v1.Library/GetBook".toList, "unary_unary".toList, [7]⟩], ret := .value 1 } ∧
    runCall (ρ := Nat) pinnedTables nm natOps .sync (svcOf [meth "GetBook", meth "Kind"]) (meth "Kind") (.dict 7) [1]
      = .ok { calls := [⟨"/acme.lib.v1.Library/Kind".toList, "unary_unary".toList, [7]⟩], ret := .value 1 } := by
  rw [Lemmas.Snake.pinnedTables_eq]
  unfold svcOf meth local_ pkg nm
  simp -index only [String.toList_ofList]
  decide +kernel

/-- what the table was before the fix: `Close` is shadowed (TypeError), `Kind` breaks construction.
Kept as the reason why `WF.later` is a hypothesis of the composite theorem. -/
theorem shadowed_stub_counterexample :
    let T0 : Tables := { pinnedTables with unsafeExtra := [] }
    runCall (ρ := Nat) T0 nm natOps .sync (svcOf [meth "GetBook", meth "Close"]) (meth "Close") (.inst 7) [1]
      = .error .typeError ∧
    runCall (ρ := Nat) T0 nm natOps .sync (svcOf [meth "GetBook", meth "Kind"]) (meth "GetBook") (.inst 7) [1]
      = .error .attributeError := by
  rw [Lemmas.Snake.pinnedTables_eq]
  unfold svcOf meth local_ pkg nm
  simp -index only [String.toList_ofList]
  decide +kernel

/-- an RPC of the API NAMED like a mix-in RPC that is mixed in (`svc.mixins` = keys of
`api.mixin_api_methods`): the mix-in's stub property is defined AFTER the service's own one and
replaces it (third clause of `WF.later`; what the mix-in stub then does is C17's model).  Operations
and Locations mix-ins do not yield to same-named RPCs of the API (findings/C03.json,
`mixin-shadows-own-rpc:operations-locations`); IAM mix-ins do (`API._has_iam_overrides`), so an
IAM-named RPC of the API never meets its name in `mixins` (corpus/C03/own_iam_rpcs_declared_*):
with other mix-ins only, the own RPC is reached on its own path. -/
theorem mixin_shadows_own_rpc_counterexample :
    let svc (mx : List String) : Service := { svcOf [meth "GetBook", meth "GetLocation"] with mixins := mx.map String.toList }
    lastDef (members pinnedTables nm (svc ["GetLocation"])) (stubKey pinnedTables (meth "GetLocation")) = some .mixinStub ∧
    runCall (ρ := Nat) pinnedTables nm natOps .sync (svc ["GetLocation"]) (meth "GetLocation") (.inst 7) [1] = .error .typeError ∧
    runCall (ρ := Nat) pinnedTables nm natOps .sync (svc ["ListLocations", "SetIamPolicy"]) (meth "GetLocation") (.inst 7) [1]
      = .ok { calls := [⟨"/acme.lib.v1.Library/GetLocation".toList, "unary_unary".toList, [7]⟩], ret := .value 1 } := by
  rw [Lemmas.Snake.pinnedTables_eq]
  unfold svcOf meth local_ pkg nm
  simp -index only [String.toList_ofList, List.map]
  decide +kernel

/-- two RPCs with one snake-case form: the client method of `GetBook` calls `/…/Get_book`. -/
theorem snake_collision_counterexample :
    runCall (ρ := Nat) pinnedTables nm natOps .sync (svcOf [meth "GetBook", meth "Get_book"]) (meth "GetBook") (.inst 7) [1]
      = .ok { calls := [⟨"/acme.lib.v1.Library/Get_book".toList, "unary_unary".toList, [7]⟩], ret := .value 1 } := by
  rw [Lemmas.Snake.pinnedTables_eq]
  unfold svcOf meth local_ pkg nm
  simp -index only [String.toList_ofList]
  decide +kernel

/-- §9-F12: asyncio client, server-streaming RPC returning Empty: no call at all (the sync client
issues it and returns None). -/
theorem void_server_streaming_async_counterexample :
    runCall (ρ := Nat) pinnedTables nm natOps .async (svcOf [meth "Watch" emptyA false true]) (meth "Watch" emptyA false true) (.inst 7) [0, 0]
      = .ok { calls := [], ret := .none } ∧
    runCall (ρ := Nat) pinnedTables nm natOps .sync (svcOf [meth "Watch" emptyA false true]) (meth "Watch" emptyA false true) (.inst 7) [0, 0]
      = .ok { calls := [⟨"/acme.lib.v1.Library/Watch".toList, "unary_stream".toList, [7]⟩], ret := .none } := by
  rw [Lemmas.Snake.pinnedTables_eq]
  unfold svcOf meth emptyA local_ pkg nm
  simp -index only [String.toList_ofList]
  decide +kernel

/-- asyncio client, CLIENT-streaming RPC returning Empty: the requests never reach the server. -/
theorem void_client_streaming_async_counterexample :
    runCall (ρ := Nat) pinnedTables nm natOps .async (svcOf [meth "Upload" emptyA true false]) (meth "Upload" emptyA true false) (.iter [7, 8]) [0]
      = .ok { calls := [], ret := .none } ∧
    runCall (ρ := Nat) pinnedTables nm natOps .sync (svcOf [meth "Upload" emptyA true false]) (meth "Upload" emptyA true false) (.iter [7, 8]) [0]
      = .ok { calls := [⟨"/acme.lib.v1.Library/Upload".toList, "stream_unary".toList, [7, 8]⟩], ret := .none } := by
  rw [Lemmas.Snake.pinnedTables_eq]
  unfold svcOf meth emptyA local_ pkg nm
  simp -index only [String.toList_ofList]
  decide +kernel

/-- §9-F10: request type from `extra_pb2.proto`: the transport cannot be constructed. -/
theorem pb2_named_module_counterexample :
    let extra : Addr := { package := pkg, module := "extra_pb2".toList, parent := [], name := "Extra".toList }
    let m : Method := { name := "GetExtra".toList, input := extra, output := local_ "Book", clientStreaming := false, serverStreaming := false }
    runCall (ρ := Nat) pinnedTables nm natOps .sync (svcOf [meth "GetBook", m]) (meth "GetBook") (.inst 7) [1]
      = .error .attributeError := by
  rw [Lemmas.Snake.pinnedTables_eq]
  unfold svcOf meth local_ pkg nm
  simp -index only [String.toList_ofList]
  decide +kernel

/-- a service with keyword, transport-unsafe, streaming and void RPCs meets `WF` -/
def demoSvc : Service :=
  svcOf [meth "GetBook", meth "Import", meth "CreateChannel" (local_ "Book") false true,
         meth "Purge" emptyA, meth "Chat" (local_ "Book") true true]

theorem demo_wf : WF pinnedTables demoSvc := by
  have ev : (demoSvc.methods.map (stubKey pinnedTables)).Nodup ∧ (demoSvc.methods.map (clientAttr pinnedTables)).Nodup ∧
      ∀ m ∈ demoSvc.methods, endsWithPb2 m.input.module = false ∧ endsWithPb2 m.output.module = false := by
    rw [Lemmas.Snake.pinnedTables_eq]
    unfold demoSvc svcOf meth emptyA local_ pkg
    simp -index only [String.toList_ofList]
    simp only [List.map_cons, List.map_nil, stubKey, clientAttr, Lemmas.Snake.snake_eq_scan]
    decide +kernel
  exact ⟨ev.1, ev.2.1, fun m _ => ⟨(stubKey_ne_close_kind m.name).1, (stubKey_ne_close_kind m.name).2, List.not_mem_nil⟩,
    ev.2.2⟩

example : runCall (ρ := Nat) pinnedTables nm natOps .async demoSvc (meth "Import") (.dict 5) [3] =
    .ok { calls := [⟨"/acme.lib.v1.Library/Import".toList, "unary_unary".toList, [5]⟩], ret := .value 3 } := by
  -- `call_reaches_rpc` at `demo_wf`: its hypotheses hold together, and the trace it promises is this one
  have hv : isVoid (meth "Import") = false := by
    unfold meth local_ pkg
    simp -index only [String.toList_ofList]
    decide +kernel
  rw [call_reaches_rpc pinnedTables nm natOps .async demoSvc demo_wf (meth "Import")
    (List.mem_cons_of_mem _ List.mem_cons_self) (.dict 5) rfl (fun h => by simp [hv] at h) [3]]
  unfold demoSvc svcOf meth local_ pkg
  simp -index only [String.toList_ofList]
  decide +kernel

example : stubKey pinnedTables (meth "Import") = "import_".toList ∧
    clientAttr pinnedTables (meth "CreateChannel") = "create_channel".toList ∧
    stubKey pinnedTables (meth "CreateChannel") = "create_channel_".toList := by
  rw [Lemmas.Snake.pinnedTables_eq]
  unfold meth local_ pkg stubKey clientAttr
  simp -index only [String.toList_ofList]
  simp only [Lemmas.Snake.snake_eq_scan]
  decide +kernel

/-- `serializer_consistent` is used with both outcomes -/
example : templCodec nm (local_ "Book") = .plus ∧ templCodec nm emptyA = .pb2 := by
  unfold emptyA local_ pkg nm
  simp -index only [String.toList_ofList]
  decide +kernel

/-- `hissued` and `ArgFits` are satisfiable together with a client-streaming method -/
example : ArgFits (μ := Nat) (δ := Nat) (meth "Chat" (local_ "Book") true true) (.iter [1, 2]) := rfl

/-! ## `snake` IS the code's current `to_snake_case`
`Pinned.Funcs.to_snake_case` is the Lean translation of `gapic/utils/case.py: to_snake_case` produced by
harness/pyfun2lean.py (the four patterns re-parsed by CPython from the current source, the order of the substitutions and
the final `lower()` read off the function body); `Bridge.Funcs.to_snake_case` re-proves on every run that translating
/repo's current source gives the same definition. -/

theorem snake_is_translated (s : List Char) : snake s = Pinned.Funcs.to_snake_case s :=
  Lemmas.Snake.snake_eq_translated s

end GapicModel.Props.C03
