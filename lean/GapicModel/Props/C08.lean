import GapicModel.Model.Lro
import GapicModel.Lemmas.Split
import GapicModel.Pinned.Funcs
/-
C08 — long-running methods return futures typed by google.longrunning.operation_info.
Parts: type resolution; `_maybe_get_lro` as an iff (`lroInfo_some_iff`: annotated, both types visible) and what follows for the emitted
future; a whole service (methods are judged one by one); the REST operations client (the last http rule for a selector decides,
`lookupSel_httpOptions`; `opsGetPath_opsHttpTable`: the rows the client uses for GetOperation); sub-packages; the future as an object — every
command commutes with draining the history, up to the cancels sent (`drain_exec`), so observing changes no outcome; `resolve` against the
translated `Address.resolve`.
-/
namespace GapicModel.Props.C08
open GapicModel.Model.Lro

/-- `mapping[key]` on a dict whose values are named by their keys is a membership test -/
theorem lookup_eq (ms : List Str) (key : Str) : lookup ms key = if key ∈ ms then some key else none := by
  induction ms with
  | nil => rfl
  | cons a ms ih =>
    rw [lookup, List.find?_cons]
    by_cases h : a = key
    · simp [h]
    · rw [beq_false_of_ne h, ← lookup, ih]; simp [Ne.symm h]

theorem lookup_of_mem {ms : List Str} {key : Str} (h : key ∈ ms) : lookup ms key = some key := by
  rw [lookup_eq, if_pos h]

theorem mem_visible {api : Api} {f : File} {k : Str} :
    k ∈ visible api f ↔ k ∈ f.messages ∨ ∃ g ∈ api, k ∈ g.messages := by
  simp [visible, allMessages, List.mem_flatMap]

/-! ## Type resolution (`Address.resolve`) -/

/-- a name without a dot is resolved relative to the package of the method's file -/
theorem resolve_relative (pkg sel : Str) (h : '.' ∉ sel) : resolve pkg sel = pkg ++ '.' :: sel := by
  simp [resolve, h]

/-- a name containing a dot is taken as fully qualified, unchanged -/
theorem resolve_absolute (pkg sel : Str) (h : '.' ∈ sel) : resolve pkg sel = sel := by
  simp [resolve, h]

theorem resolve_idempotent (pkg sel : Str) : resolve pkg (resolve pkg sel) = resolve pkg sel := by
  by_cases h : '.' ∈ sel
  · rw [resolve_absolute pkg sel h, resolve_absolute pkg sel h]
  · rw [resolve_relative pkg sel h]
    exact resolve_absolute _ _ (by simp)

/-- relative and absolute spellings of the same message of the method's package resolve alike -/
theorem resolve_relative_eq_absolute (pkg sel : Str) (h : '.' ∉ sel) :
    resolve pkg sel = resolve pkg (pkg ++ '.' :: sel) := by
  rw [resolve_relative pkg sel h]
  exact (resolve_absolute _ _ (by simp)).symm

/-! ## `_maybe_get_lro` -/

theorem lroInfo_unannotated (api : Api) (f : File) (m : Method) (h : isOperation m.output = false ∨ m.opInfo = none) :
    lroInfo api f m = .ok none := by
  rw [lroInfo]
  rcases h with h | h
  · rw [h]; rfl
  · rw [h]; split <;> rfl

/-- `_maybe_get_lro` on an annotated Operation-returning method, the dictionary look-ups read as membership tests -/
theorem lroInfo_annotated (api : Api) (f : File) (m : Method) (op : OpInfo)
    (hout : isOperation m.output = true) (hinfo : m.opInfo = some op) :
    lroInfo api f m =
      if op.response = [] ∨ op.metadata = [] then .error .typeError
      else if resolve f.package op.response ∈ visible api f then
        if resolve f.package op.metadata ∈ visible api f then
          .ok (some (resolve f.package op.response, resolve f.package op.metadata))
        else .error (.keyError (resolve f.package op.metadata))
      else .error (.keyError (resolve f.package op.response)) := by
  rw [lroInfo, hout, hinfo]
  simp only [lookup_eq, Bool.not_true, Bool.false_eq_true, if_false]
  by_cases he : op.response = [] ∨ op.metadata = []
  · simp only [he, if_true]
  · by_cases h1 : resolve f.package op.response ∈ visible api f <;>
      by_cases h2 : resolve f.package op.metadata ∈ visible api f <;> simp only [he, h1, h2, if_true, if_false]

/-- **Exact characterisation of a successful LRO annotation**: the method is typed `(r, md)` iff it
returns `google.longrunning.Operation`, carries `operation_info` with both names non-empty, and the
resolved names are messages of SOME file of the request (or of the service's own file); `r`, `md`
are those resolved names. -/
theorem lroInfo_some_iff (api : Api) (f : File) (m : Method) (r md : Str) :
    lroInfo api f m = .ok (some (r, md)) ↔
      isOperation m.output = true ∧ ∃ op, m.opInfo = some op ∧ op.response ≠ [] ∧ op.metadata ≠ [] ∧
        r = resolve f.package op.response ∧ md = resolve f.package op.metadata ∧
        r ∈ visible api f ∧ md ∈ visible api f := by
  cases hout : isOperation m.output with
  | false => simp [lroInfo_unannotated api f m (.inl hout)]
  | true =>
    cases hinfo : m.opInfo with
    | none => simp [lroInfo_unannotated api f m (.inr hinfo)]
    | some op =>
      rw [lroInfo_annotated api f m op hout hinfo]
      simp only [Option.some.injEq, exists_eq_left', true_and]
      constructor
      · intro h
        repeat' split at h
        all_goals cases h
        rename_i he h1 h2
        exact ⟨(not_or.mp he).1, (not_or.mp he).2, rfl, rfl, h1, h2⟩
      · rintro ⟨hr, hm, rfl, rfl, h1, h2⟩
        rw [if_neg (not_or.mpr ⟨hr, hm⟩), if_pos h1, if_pos h2]

/-- **Two-pass visibility**: if the (resolved) response and metadata types are defined by ANY file of
the request, the annotation is accepted and typed by them — whatever any file imports.  `deps`
occurs nowhere in the hypotheses. -/
theorem lro_visible_without_import (api : Api) (f : File) (m : Method) (op : OpInfo)
    (hout : isOperation m.output = true) (hinfo : m.opInfo = some op)
    (hr : op.response ≠ []) (hm : op.metadata ≠ [])
    (hrdef : ∃ g ∈ api, resolve f.package op.response ∈ g.messages)
    (hmdef : ∃ g ∈ api, resolve f.package op.metadata ∈ g.messages) :
    lroInfo api f m = .ok (some (resolve f.package op.response, resolve f.package op.metadata)) := by
  rw [lroInfo_some_iff]
  exact ⟨hout, op, hinfo, hr, hm, rfl, rfl, mem_visible.mpr (Or.inr hrdef), mem_visible.mpr (Or.inr hmdef)⟩

/-- change the import list of a file by an arbitrary function -/
def reimport (g : String → List String → List String) (f : File) : File :=
  { f with deps := g f.name f.deps }

theorem visible_reimport (g : String → List String → List String) (api : Api) (f : File) :
    visible (api.map (reimport g)) (reimport g f) = visible api f := by
  rw [visible, allMessages, List.flatMap_map]
  rfl

/-- the same fact as an invariance: rewriting the import lists of all files in any way changes nothing -/
theorem lroInfo_imports_irrelevant (g : String → List String → List String) (api : Api) (f : File) (m : Method) :
    lroInfo (api.map (reimport g)) (reimport g f) m = lroInfo api f m := by
  unfold lroInfo
  rw [visible_reimport]
  rfl

/-- a relative name denotes the message of that name in the method's package, wherever it is defined.
PARTIAL: proved for relative names that are a single identifier (`'.' ∉ name`).  The full statement
("any name relative to the package") is FALSE for the code: a relative name of a nested message
(`Outer.Inner`) is taken as absolute — see `relative_nested_counterexample` (recorded finding). -/
theorem lro_relative_in_package_partial (api : Api) (f : File) (m : Method) (op : OpInfo)
    (hout : isOperation m.output = true) (hinfo : m.opInfo = some op)
    (hr : op.response ≠ []) (hm : op.metadata ≠ [])
    (hrrel : '.' ∉ op.response) (hmrel : '.' ∉ op.metadata)
    (hrdef : ∃ g ∈ api, f.package ++ '.' :: op.response ∈ g.messages)
    (hmdef : ∃ g ∈ api, f.package ++ '.' :: op.metadata ∈ g.messages) :
    lroInfo api f m = .ok (some (f.package ++ '.' :: op.response, f.package ++ '.' :: op.metadata)) := by
  rw [← resolve_relative _ _ hrrel] at hrdef ⊢
  rw [← resolve_relative _ _ hmrel] at hmdef ⊢
  exact lro_visible_without_import api f m op hout hinfo hr hm hrdef hmdef

/-- **Rejection at generation time**: an annotated Operation-returning method lacking either type
name raises `TypeError` while the schema is built. -/
theorem missing_type_rejected (api : Api) (f : File) (m : Method) (op : OpInfo)
    (hout : isOperation m.output = true) (hinfo : m.opInfo = some op)
    (h : op.response = [] ∨ op.metadata = []) :
    lroInfo api f m = .error .typeError ∧ ∀ t, emitted api f m t = .error .typeError := by
  have : lroInfo api f m = .error .typeError := by rw [lroInfo_annotated api f m op hout hinfo, if_pos h]
  exact ⟨this, fun t => by rw [emitted, this]⟩

/-- **No annotation ⇒ raw Operation**: `lro = None`, the emitted method returns the transport's
reply unwrapped, and the client-level return type is the output message itself. -/
theorem unannotated_is_raw (api : Api) (f : File) (m : Method) (t : Transport)
    (hinfo : m.opInfo = none) :
    lroInfo api f m = .ok none ∧ emitted api f m t = .ok .raw ∧
    ∀ v : MethodView, v.void = false → v.lro = false → v.extLro = false → v.paged = false →
      ∀ a, clientOutput v a = .message v.output := by
  have := lroInfo_unannotated api f m (.inr hinfo)
  refine ⟨this, by rw [emitted, this], ?_⟩
  intro v h1 h2 h3 h4 a
  simp [clientOutput, h1, h2, h3, h4]

/-- forced hypothesis of the visibility theorem, stated: a well-formed annotation naming a type that
no file of the request defines is NOT rejected with the advertised `TypeError` but with `KeyError`. -/
theorem unknown_type_keyerror (api : Api) (f : File) (m : Method) (op : OpInfo)
    (hout : isOperation m.output = true) (hinfo : m.opInfo = some op)
    (hr : op.response ≠ []) (hm : op.metadata ≠ [])
    (hundef : resolve f.package op.response ∉ visible api f) :
    lroInfo api f m = .error (.keyError (resolve f.package op.response)) := by
  rw [lroInfo_annotated api f m op hout hinfo, if_neg (not_or.mpr ⟨hr, hm⟩), if_neg hundef]

/-- an LRO method's client-level return type is the operation future of the client's flavour -/
theorem lro_client_output (v : MethodView) (hv : v.void = false) (hl : v.lro = true) :
    clientOutput v false = .operation ∧ clientOutput v true = .asyncOperation := by
  simp [clientOutput, hv, hl]

theorem emitted_future_iff (api : Api) (f : File) (m : Method) (t : Transport) (o : OpsClient) (r md : Str) :
    emitted api f m t = .ok (.future o r md) ↔ lroInfo api f m = .ok (some (r, md)) ∧ o = operationsClient t := by
  constructor
  · intro h
    rw [emitted] at h
    split at h <;> cases h
    exact ⟨by assumption, rfl⟩
  · rintro ⟨h, rfl⟩
    rw [emitted, h]

/-- **The emitted `from_gapic` call names exactly the annotated types** and the transport's own
operations client. -/
theorem future_types (api : Api) (f : File) (m : Method) (t : Transport) (r md : Str)
    (h : lroInfo api f m = .ok (some (r, md))) :
    emitted api f m t = .ok (.future (operationsClient t) r md) :=
  (emitted_future_iff api f m t _ r md).mpr ⟨h, rfl⟩

/-- **Same channel** (structural): every RPC of a client call — the method itself and every
`GetOperation` poll — travels on the channel the transport was given. -/
theorem ops_client_same_channel (api : Api) (f : File) (m : Method) (t : Transport) (w : Wrap)
    (path : Str) (first : OpState) (replies : List OpState)
    (h : emitted api f m t = .ok w) :
    ∀ e ∈ callTrace t path w first replies, e.1 = t.channel := by
  intro e he
  cases w with
  | raw => rw [callTrace, List.mem_singleton] at he; rw [he]
  | future o r md =>
    rcases List.mem_cons.mp he with he | he
    · rw [he]
    · rw [(List.mem_replicate.mp he).2, ((emitted_future_iff api f m t o r md).mp h).2]; rfl

/-! ## Histories: not-done^k, then done (all k, by induction) -/

/-- a reply that is already done is never followed by a poll -/
theorem poll_initial_done (first : OpState) (replies : List OpState) (h : first.done = true) :
    poll first replies = (first, 0) := by
  cases replies <;> simp [poll, h]

/-- the first done operation decides; exactly `k+1` polls for `k` not-done replies; nothing after the
done reply is fetched -/
theorem poll_first_done (first : OpState) (pre : List OpState) (d : OpState) (post : List OpState)
    (hfirst : first.done = false) (hpre : ∀ o ∈ pre, o.done = false) (hd : d.done = true) :
    poll first (pre ++ d :: post) = (d, pre.length + 1) := by
  induction pre generalizing first with
  | nil => simp [poll, hfirst, poll_initial_done d post hd]
  | cons a pre ih =>
    simp [poll, hfirst, ih a (hpre a (by simp)) fun o ho => hpre o (by simp [ho])]

/-- polling on from where `poll` stopped fetches nothing -/
theorem poll_fix (cur : OpState) (rs : List OpState) :
    poll (poll cur rs).1 (rs.drop (poll cur rs).2) = ((poll cur rs).1, 0) := by
  induction rs generalizing cur with
  | nil => simp [poll]
  | cons r rs ih =>
    by_cases hd : cur.done = true
    · rw [poll_initial_done cur (r :: rs) hd]
      exact poll_initial_done cur _ hd
    · simp only [poll, hd, Bool.false_eq_true, if_false, List.drop_succ_cons]
      exact ih r

/-- **Typed result**: after `not-done^k, done(response packed as the annotated response type)` the
future's result is an instance of that type carrying the packed payload, after exactly `k+1` polls,
and `metadata` is the done operation's metadata as an instance of the annotated metadata type. -/
theorem result_typed (rt mt : Str) (first : OpState) (pre : List OpState) (d : OpState) (post : List OpState)
    (p q : Nat)
    (hfirst : first.done = false) (hpre : ∀ o ∈ pre, o.done = false) (hd : d.done = true)
    (hout : d.outcome = .response ⟨rt, p⟩) (hmeta : d.metadata = some ⟨mt, q⟩) :
    let o := runFuture rt mt first (pre ++ d :: post)
    o.result = .ok rt p ∧ o.polls = pre.length + 1 ∧ o.metadataAfter = some (.ok mt q) := by
  simp [runFuture, poll_first_done first pre d post hfirst hpre hd, settle, hd, hout, unpack, metadataOf, hmeta]

/-- done with `error` ⇒ the future raises the API error of that code, after `k+1` polls -/
theorem result_error (rt mt : Str) (first : OpState) (pre : List OpState) (d : OpState) (post : List OpState)
    (c : Nat)
    (hfirst : first.done = false) (hpre : ∀ o ∈ pre, o.done = false) (hd : d.done = true)
    (hout : d.outcome = .error c) :
    let o := runFuture rt mt first (pre ++ d :: post)
    o.result = .apiError c ∧ o.polls = pre.length + 1 := by
  simp [runFuture, poll_first_done first pre d post hfirst hpre hd, settle, hd, hout]

/-- the RPC's own reply is already done ⇒ no poll at all -/
theorem result_immediate (rt mt : Str) (first : OpState) (replies : List OpState) (p : Nat)
    (hd : first.done = true) (hout : first.outcome = .response ⟨rt, p⟩) :
    let o := runFuture rt mt first replies
    o.result = .ok rt p ∧ o.polls = 0 := by
  simp [runFuture, poll_initial_done first replies hd, settle, hd, hout, unpack]

/-- a result is an instance of the annotated response type or it is no result: the future never
hands out a message of another type -/
theorem result_only_annotated_type (rt mt : Str) (first : OpState) (replies : List OpState) (ty : Str) (p : Nat)
    (h : (runFuture rt mt first replies).result = .ok ty p) : ty = rt := by
  simp only [runFuture, settle, unpack] at h
  repeat' split at h
  all_goals cases h
  rfl

/-- **End to end**: annotation accepted with resolved types `(r, md)` ⇒ the emitted method returns a
future on the transport's channel whose result, for every history `not-done^k, done(response: r)`,
is an instance of `r` and whose metadata is an instance of `md`. -/
theorem lro_end_to_end (api : Api) (f : File) (m : Method) (t : Transport) (op : OpInfo)
    (hout : isOperation m.output = true) (hinfo : m.opInfo = some op)
    (hr : op.response ≠ []) (hm : op.metadata ≠ [])
    (hrdef : ∃ g ∈ api, resolve f.package op.response ∈ g.messages)
    (hmdef : ∃ g ∈ api, resolve f.package op.metadata ∈ g.messages)
    (first : OpState) (pre : List OpState) (d : OpState) (post : List OpState) (p q : Nat)
    (hfirst : first.done = false) (hpre : ∀ o ∈ pre, o.done = false) (hd : d.done = true)
    (hresp : d.outcome = .response ⟨resolve f.package op.response, p⟩)
    (hmeta : d.metadata = some ⟨resolve f.package op.metadata, q⟩) :
    ∃ rt mt, emitted api f m t = .ok (.future ⟨t.channel⟩ rt mt) ∧
      rt = resolve f.package op.response ∧ mt = resolve f.package op.metadata ∧
      (runFuture rt mt first (pre ++ d :: post)).result = .ok rt p ∧
      (runFuture rt mt first (pre ++ d :: post)).metadataAfter = some (.ok mt q) ∧
      (runFuture rt mt first (pre ++ d :: post)).polls = pre.length + 1 := by
  refine ⟨_, _, ?_, rfl, rfl, ?_⟩
  · have := lro_visible_without_import api f m op hout hinfo hr hm hrdef hmdef
    simpa [operationsClient] using future_types api f m t _ _ this
  · have := result_typed _ _ first pre d post p q hfirst hpre hd hresp hmeta
    exact ⟨this.1, this.2.2, this.2.1⟩

def libFile : File :=
  { name := "acme/lib/v1/lib.proto", package := "acme.lib.v1".toList,
    deps := ["google/longrunning/operations.proto"],
    messages := ["acme.lib.v1.Book".toList, "acme.lib.v1.Outer".toList, "acme.lib.v1.Outer.Inner".toList] }

/-- defines `Crate`; imported by nobody -/
def extraFile : File :=
  { name := "acme/lib/v1/extra.proto", package := "acme.lib.v1".toList, deps := [],
    messages := ["acme.lib.v1.Crate".toList] }

def emptyFile : File :=
  { name := "google/protobuf/empty.proto", package := "google.protobuf".toList, deps := [],
    messages := ["google.protobuf.Empty".toList] }

/-- request order: the service's file FIRST, the file defining the metadata type after it -/
def demoApi : Api := [emptyFile, libFile, extraFile]

def opOut : Str := ".google.longrunning.Operation".toList

def move : Method := ⟨"Move", opOut, some ⟨"google.protobuf.Empty".toList, "Crate".toList⟩⟩

theorem isOperation_opOut : isOperation opOut = true := by
  unfold isOperation operationSuffix opOut
  simp -index only [String.toList_ofList]
  decide +kernel

/-- `lroInfo_annotated` on the descriptor's spelling of the output type, which all test inputs carry: the vectors rest on
this, and the `String` literal of `operationSuffix` is evaluated in `isOperation_opOut` only -/
theorem lroInfo_opOut (api : Api) (f : File) (name : String) (op : OpInfo) :
    lroInfo api f ⟨name, opOut, some op⟩ =
      if op.response = [] ∨ op.metadata = [] then .error .typeError
      else if resolve f.package op.response ∈ visible api f then
        if resolve f.package op.metadata ∈ visible api f then
          .ok (some (resolve f.package op.response, resolve f.package op.metadata))
        else .error (.keyError (resolve f.package op.metadata))
      else .error (.keyError (resolve f.package op.response)) :=
  -- without `dsimp only` the unifier meets `opOut =?= (Method.mk ..).output`, unfolds `opOut` first and evaluates the literal
  lroInfo_annotated api f _ op (by dsimp only; exact isOperation_opOut) rfl

/-- hypotheses of `lro_visible_without_import` / `lro_end_to_end` are met by an unimported, later file -/
example : lroInfo demoApi libFile move = .ok (some ("google.protobuf.Empty".toList, "acme.lib.v1.Crate".toList)) := by
  rw [move, lroInfo_opOut]
  unfold demoApi emptyFile libFile extraFile
  simp -index only [String.toList_ofList]
  decide +kernel

/-- a single pass in request order would not have seen `Crate` when loading lib.proto (position 1) -/
example : lookup (visibleOnePass demoApi 1) "acme.lib.v1.Crate".toList = none := by
  unfold demoApi emptyFile libFile extraFile
  simp -index only [String.toList_ofList]
  decide +kernel

example : '.' ∉ "Crate".toList := by
  simp -index only [String.toList_ofList]
  decide +kernel
example : '.' ∈ "google.protobuf.Empty".toList := by
  simp -index only [String.toList_ofList]
  decide +kernel
example : isOperation opOut = true := isOperation_opOut

/-- `missing_type_rejected` -/
example : lroInfo demoApi libFile ⟨"Move", opOut, some ⟨"Book".toList, []⟩⟩ = .error .typeError := by
  rw [lroInfo_opOut, if_pos (.inr rfl)]

/-- `unannotated_is_raw` -/
example : emitted demoApi libFile ⟨"Move", opOut, none⟩ ⟨7⟩ = .ok .raw :=
  (unannotated_is_raw _ _ _ _ rfl).2.1

/-- `unknown_type_keyerror` -/
example : lroInfo demoApi libFile ⟨"Move", opOut, some ⟨"Nope".toList, "Book".toList⟩⟩
    = .error (.keyError "acme.lib.v1.Nope".toList) := by
  rw [lroInfo_opOut]
  unfold demoApi emptyFile libFile extraFile
  simp -index only [String.toList_ofList]
  decide +kernel

/-- a history with two not-done replies, a done reply and a reply that must never be fetched -/
example : runFuture "acme.lib.v1.Book".toList "acme.lib.v1.Crate".toList
    ⟨false, some ⟨"acme.lib.v1.Crate".toList, 1⟩, .neither⟩
    [⟨false, none, .neither⟩, ⟨false, some ⟨"acme.lib.v1.Crate".toList, 2⟩, .neither⟩,
     ⟨true, some ⟨"acme.lib.v1.Crate".toList, 3⟩, .response ⟨"acme.lib.v1.Book".toList, 42⟩⟩,
     ⟨true, none, .error 5⟩]
    = ⟨3, .ok "acme.lib.v1.Book".toList 42, some (.ok "acme.lib.v1.Crate".toList 1), some (.ok "acme.lib.v1.Crate".toList 3)⟩ := by
  simp -index only [String.toList_ofList]
  decide +kernel

/-- **The code's reading of "relative"** (confirmed on the real generator; recorded finding): a
relative name of a NESTED message of the method's own package, `Outer.Inner`, contains a dot, is
taken as fully qualified and is not found — although `acme.lib.v1.Outer.Inner` is defined in the
service's own file. -/
theorem relative_nested_counterexample :
    "acme.lib.v1.Outer.Inner".toList ∈ visible demoApi libFile ∧
    lroInfo demoApi libFile ⟨"Move", opOut, some ⟨"Outer.Inner".toList, "Book".toList⟩⟩
      = .error (.keyError "Outer.Inner".toList) := by
  rw [lroInfo_opOut]
  unfold demoApi emptyFile libFile extraFile
  simp -index only [String.toList_ofList]
  decide +kernel

/-- the fully-qualified spelling of the same nested message is accepted -/
example : lroInfo demoApi libFile ⟨"Move", opOut, some ⟨"acme.lib.v1.Outer.Inner".toList, "Book".toList⟩⟩
    = .ok (some ("acme.lib.v1.Outer.Inner".toList, "acme.lib.v1.Book".toList)) := by
  rw [lroInfo_opOut]
  unfold demoApi emptyFile libFile extraFile
  simp -index only [String.toList_ofList]
  decide +kernel

/-- a leading dot (descriptor-style fully-qualified name) is not understood either (hypothesis) -/
theorem leading_dot_counterexample :
    lroInfo demoApi libFile ⟨"Move", opOut, some ⟨".acme.lib.v1.Book".toList, "Book".toList⟩⟩
      = .error (.keyError ".acme.lib.v1.Book".toList) := by
  rw [lroInfo_opOut]
  unfold demoApi emptyFile libFile extraFile
  simp -index only [String.toList_ofList]
  decide +kernel

/-! ## Whole service: methods are judged one by one (no state shared between methods) -/

/-- **Per-method independence**: a service loads iff every method loads, and entry `i` of the result is
`lroInfo` of method `i` alone — whatever annotations the other methods carry (two methods sharing a
response type but not a metadata type, the same type as response of one and metadata of another, …). -/
theorem loadService_ok_iff (api : Api) (f : File) (ms : List Method) (xs : List (Option (Str × Str))) :
    loadService api f ms = .ok xs ↔ ms.map (lroInfo api f) = xs.map .ok := by
  induction ms generalizing xs with
  | nil => cases xs <;> simp [loadService]
  | cons m ms ih =>
    rw [loadService, List.map_cons]
    generalize lroInfo api f m = a
    cases a with
    | error e => cases xs <;> simp
    | ok x =>
      cases xs with
      | nil => cases loadService api f ms <;> simp
      | cons y ys =>
        simp only [List.map_cons, List.cons.injEq, Except.ok.injEq, ← ih ys]
        cases loadService api f ms <;> simp

/-- the first method that cannot be loaded decides the generation outcome -/
theorem loadService_first_error (api : Api) (f : File) (pre : List Method) (m : Method) (post : List Method) (e : Err)
    (hpre : ∀ p ∈ pre, ∃ x, lroInfo api f p = .ok x) (hm : lroInfo api f m = .error e) :
    loadService api f (pre ++ m :: post) = .error e := by
  induction pre with
  | nil => simp [loadService, hm]
  | cons a pre ih =>
    obtain ⟨x, hx⟩ := hpre a (by simp)
    have := ih (fun p hp => hpre p (by simp [hp]))
    simp [loadService, hx, this]

/-- **Rejection at the level of the service**: one annotated Operation-returning method lacking a type name
(annotation present with both names empty included) makes the whole build raise `TypeError`, provided
the methods before it load. -/
theorem service_with_incomplete_annotation_rejected (api : Api) (f : File) (pre : List Method) (m : Method)
    (post : List Method) (op : OpInfo)
    (hpre : ∀ p ∈ pre, ∃ x, lroInfo api f p = .ok x)
    (hout : isOperation m.output = true) (hinfo : m.opInfo = some op) (h : op.response = [] ∨ op.metadata = []) :
    loadService api f (pre ++ m :: post) = .error .typeError :=
  loadService_first_error api f pre m post _ hpre (missing_type_rejected api f m op hout hinfo h).1

/-- the transport has an operations client iff some method is an LRO -/
theorem hasLro_iff (xs : List (Option (Str × Str))) : hasLro xs = true ↔ ∃ p, some p ∈ xs := by
  simp only [hasLro, List.any_eq_true, Option.isSome_iff_exists]
  exact ⟨fun ⟨_, h, p, e⟩ => ⟨p, e ▸ h⟩, fun ⟨p, h⟩ => ⟨_, h, p, rfl⟩⟩

def metaFile : File :=
  { name := "acme/lib/v1/meta.proto", package := "acme.lib.v1".toList, deps := [],
    messages := ["acme.lib.v1.DeleteBookMetadata".toList, "acme.lib.v1.DeleteShelfMetadata".toList, "acme.lib.v1.Book".toList] }

def delApi : Api := [emptyFile, metaFile]

def delBook : Method := ⟨"DeleteBook", opOut, some ⟨"google.protobuf.Empty".toList, "DeleteBookMetadata".toList⟩⟩
def delShelf : Method := ⟨"DeleteShelf", opOut, some ⟨"google.protobuf.Empty".toList, "DeleteShelfMetadata".toList⟩⟩
/-- the response type of this one is the metadata type of nobody, its metadata type is the response type of `delBook` -/
def crossed : Method := ⟨"Crossed", opOut, some ⟨"Book".toList, "google.protobuf.Empty".toList⟩⟩

/-- two methods sharing the response type keep their own metadata types; raw methods stay raw -/
example : loadService delApi metaFile [delBook, ⟨"Raw", opOut, none⟩, delShelf, crossed] =
    .ok [some ("google.protobuf.Empty".toList, "acme.lib.v1.DeleteBookMetadata".toList), none,
         some ("google.protobuf.Empty".toList, "acme.lib.v1.DeleteShelfMetadata".toList),
         some ("acme.lib.v1.Book".toList, "google.protobuf.Empty".toList)] := by
  rw [loadService_ok_iff, delBook, delShelf, crossed]
  simp only [List.map_cons, List.map_nil]
  rw [lroInfo_opOut, lroInfo_opOut, lroInfo_opOut, lroInfo_unannotated delApi metaFile ⟨"Raw", opOut, none⟩ (.inr rfl)]
  unfold delApi emptyFile metaFile
  simp -index only [String.toList_ofList]
  decide +kernel

/-- annotation present, both names empty, after a good method: the build raises TypeError -/
example : loadService delApi metaFile [delBook, ⟨"Bad", opOut, some ⟨[], []⟩⟩, delShelf] = .error .typeError := by
  rw [loadService, delBook, lroInfo_opOut, loadService, lroInfo_opOut]
  -- `rw`: an `unfold` under the `match` of `loadService` is re-checked by evaluating both sides
  rw [delApi, emptyFile, metaFile]
  simp -index only [String.toList_ofList]
  decide +kernel

example : hasLro [none, some ([], [])] = true ∧ hasLro [none, none] = false := by
  decide +kernel

/-! ## The name of api-core's `operation` module in the emitted client -/

/-- **The constructor call uses the name the import binds** — with or without an alias. -/
theorem futureCode_callee_bound (async : Bool) (v : Str) (coll res : List Str) (c : FutureCode)
    (h : futureCode async v coll res = some c) : c.callee = c.importAs ∧ c.importModule = futureModule async := by
  simp only [futureCode, Option.map_eq_some_iff] at h
  obtain ⟨a, _, rfl⟩ := h
  exact ⟨rfl, rfl⟩

/-- no collision ⇒ no alias: `from google.api_core import operation`, `operation.from_gapic(…)` -/
theorem futureCode_plain (async : Bool) (v : Str) (coll res : List Str)
    (h1 : futureModule async ∉ coll) (h2 : futureModule async ∉ res) :
    futureCode async v coll res = some ⟨futureModule async, futureModule async, futureModule async⟩ := by
  simp [futureCode, moduleAlias, h1, h2, boundName]

/-- a collision on `operation` (a proto file `operation.proto` whose types the service uses, an rpc named
`Operation`) ⇒ import AND call use `gac_operation` -/
theorem futureCode_collision (v : Str) (coll res : List Str)
    (hv1 : v ≠ ['g','o','o','g','l','e']) (hv2 : v ≠ ['a','p','i','_','c','o','r','e'])
    (h : ['o','p','e','r','a','t','i','o','n'] ∈ coll) :
    futureCode false v coll res = some ⟨['o','p','e','r','a','t','i','o','n'],
      ['g','a','c','_','o','p','e','r','a','t','i','o','n'], ['g','a','c','_','o','p','e','r','a','t','i','o','n']⟩ := by
  have c1 : coll.contains (futureModule false) = true := by simpa [futureModule] using h
  have hi : initials apiCorePackage v = some ['g','a','c'] := by
    simp only [initials, apiCorePackage, List.filter, bne_iff_ne.mpr hv1.symm, bne_iff_ne.mpr hv2.symm]
    decide
  simp only [futureCode, moduleAlias, c1, Bool.true_or, if_true, hi]
  decide

example : futureCode true ['v','1'] [['o','p','e','r','a','t','i','o','n']] [] =
    some ⟨futureModule true, futureModule true, futureModule true⟩ := by
  decide +kernel

example : futureCode false ['v','1'] [['l','i','b'], ['o','p','e','r','a','t','i','o','n']] [] =
    some ⟨['o','p','e','r','a','t','i','o','n'], ['g','a','c','_','o','p','e','r','a','t','i','o','n'],
          ['g','a','c','_','o','p','e','r','a','t','i','o','n']⟩ := by
  decide +kernel

/-! ## REST: which URL the operations client polls -/

/-- only `google.longrunning.Operations.*` rules reach the operations transport -/
theorem opsHttpTable_only_operations (res : List Str) (rules : List YamlRule) :
    ∀ e ∈ opsHttpTable res rules, "google.longrunning.Operations".toList.isPrefixOf e.1 = true :=
  fun _ he => (List.mem_filter.mp he).2

/-- `d.get(k)` -/
def lookupSel {β : Type} (d : List (Str × β)) (k : Str) : Option β := (d.find? (·.1 == k)).map (·.2)

theorem mem_of_lookupSel {β : Type} {d : List (Str × β)} {k : Str} {v : β} (h : lookupSel d k = some v) : (k, v) ∈ d := by
  obtain ⟨e, hf, rfl⟩ := Option.map_eq_some_iff.mp h
  exact eq_of_beq (List.find?_some (p := fun x : Str × β => x.1 == k) hf) ▸ List.mem_of_find?_eq_some hf

theorem lookupSel_filter {β : Type} (p : Str → Bool) (d : List (Str × β)) (k : Str) (hk : p k = true) :
    lookupSel (d.filter fun e => p e.1) k = lookupSel d k := by
  unfold lookupSel
  rw [List.find?_filter]
  congr 2
  funext e
  cases h : e.1 == k
  · simp
  · simp [eq_of_beq h, hk]

/-- `d[k] = v; d.get(k')` -/
theorem lookupSel_dictSet {β : Type} (d : List (Str × β)) (k k' : Str) (v : β) :
    lookupSel (dictSet d k v) k' = if k' = k then some v else lookupSel d k' := by
  have hfst : ∀ e : Str × β, ((if e.1 == k then (k, v) else e).1 == k') = (e.1 == k') := fun e => by
    split
    · rename_i h; rw [eq_of_beq h]
    · rfl
  unfold lookupSel dictSet
  split
  · -- `k` is there: overwriting keeps every entry's key, so `find?` stops at the same entry
    rename_i hany
    rw [List.find?_map]
    simp only [Function.comp_def, hfst]
    cases hf : d.find? (·.1 == k') with
    | none =>
      have : k' ≠ k := fun h => by
        obtain ⟨x, hx, hk⟩ := List.any_eq_true.mp hany
        exact absurd (h ▸ hk) (List.find?_eq_none.mp hf x hx)
      simp [this]
    | some e =>
      have he : e.1 = k' := eq_of_beq (List.find?_some (p := fun x : Str × β => x.1 == k') hf)
      by_cases hk : k' = k
      · simp [hk, he.trans hk]
      · simp [hk, he]
  · -- `k` is new: `k'` is found in `d` or is the key of the appended entry
    rename_i hany
    rw [List.find?_append]
    by_cases hk : k' = k
    · subst hk
      have : d.find? (·.1 == k') = none := List.find?_eq_none.mpr fun x hx h => hany (List.any_eq_true.mpr ⟨x, hx, h⟩)
      simp [this]
    · have : ¬ k = k' := fun h => hk h.symm
      cases d.find? (·.1 == k') <;> simp [hk, this]

/-- a dict filled by successive assignments: the entry of a key is the value of the LAST assignment to it -/
theorem lookupSel_foldl_dictSet {α β : Type} (key : α → Str) (val : α → β) (l : List α) (d : List (Str × β)) (s : Str) :
    lookupSel (l.foldl (fun d a => dictSet d (key a) (val a)) d) s =
      ((l.reverse.find? (key · == s)).map val).or (lookupSel d s) := by
  rw [List.foldl_eq_foldr_reverse]
  induction l.reverse with
  | nil => rfl
  | cons a l ih =>
    rw [List.foldr_cons, lookupSel_dictSet, ih, List.find?_cons]
    by_cases h : key a = s
    · rw [if_pos h.symm, beq_iff_eq.mpr h]; rfl
    · rw [if_neg (Ne.symm h), beq_false_of_ne h]

/-! ### Every declared binding reaches the operations client -/

/-- `API.http_options` is a dict comprehension: the entry of a selector is the binding list of the LAST rule that names it -/
theorem lookupSel_httpOptions (res : List Str) (rules : List YamlRule) (s : Str) :
    lookupSel (httpOptions res rules) s = (rules.reverse.find? (·.selector == s)).map (ruleRows res) := by
  rw [httpOptions, lookupSel_foldl_dictSet]
  exact Option.or_none

/-- … and the operations client is handed the entries of the `Operations.*` selectors as they are -/
theorem lookupSel_opsHttpTable (res : List Str) (rules : List YamlRule) (s : Str)
    (hs : "google.longrunning.Operations".toList.isPrefixOf s = true) :
    lookupSel (opsHttpTable res rules) s = (rules.reverse.find? (·.selector == s)).map (ruleRows res) := by
  rw [opsHttpTable, lookupSel_filter _ _ _ hs, lookupSel_httpOptions]

/-- a GetOperation rule of the service config replaces the built-in default -/
theorem yaml_rule_overrides_default (table : List (Str × List Row)) (rows : List Row) (pfx name : Str)
    (h : table.find? (·.1 == getOperationSelector) = some (getOperationSelector, rows)) :
    opsGetPath table pfx name = transcodeName rows name := by
  rw [opsGetPath, h]

/-- without one, the default `/{version}/{name=**/operations/*}` is used -/
theorem default_rule_without_yaml (table : List (Str × List Row)) (pfx name : Str)
    (h : table.find? (·.1 == getOperationSelector) = none) :
    opsGetPath table pfx name =
      transcodeName [⟨"get".toList, '/' :: pfx ++ "/{name=**/operations/*}".toList, none⟩] name := by
  rw [opsGetPath, h]

theorem opsGetPath_eq_lookupSel (table : List (Str × List Row)) (pfx name : Str) :
    opsGetPath table pfx name = transcodeName
      ((lookupSel table getOperationSelector).getD [⟨"get".toList, '/' :: pfx ++ "/{name=**/operations/*}".toList, none⟩]) name := by
  unfold opsGetPath lookupSel
  cases table.find? (·.1 == getOperationSelector) <;> rfl

theorem selector_is_operations : "google.longrunning.Operations".toList.isPrefixOf getOperationSelector = true := by
  unfold getOperationSelector
  simp -index only [String.toList_ofList]
  decide +kernel

/-- the rows the REST operations client transcodes `GetOperation` with: those of the last yaml rule for it, else the default -/
theorem opsGetPath_opsHttpTable (res : List Str) (rules : List YamlRule) (pfx name : Str) :
    opsGetPath (opsHttpTable res rules) pfx name = transcodeName
      (((rules.reverse.find? (·.selector == getOperationSelector)).map (ruleRows res)).getD
        [⟨"get".toList, '/' :: pfx ++ "/{name=**/operations/*}".toList, none⟩]) name := by
  rw [opsGetPath_eq_lookupSel, lookupSel_opsHttpTable _ _ _ selector_is_operations]

theorem find_last_rule (pre post : List YamlRule) (r : YamlRule) (hlast : ∀ r' ∈ post, r'.selector ≠ r.selector) :
    (pre ++ r :: post).reverse.find? (·.selector == r.selector) = some r := by
  have : post.reverse.find? (·.selector == r.selector) = none :=
    List.find?_eq_none.mpr fun x hx => by simpa using hlast x (List.mem_reverse.mp hx)
  simp [List.find?_append, this]

/-- **every declared binding is in the table handed to the operations client**: for the last rule `r` that names an
`google.longrunning.Operations.*` selector, the table's entry is the WHOLE list `primary :: additional_bindings`
(those `try_parse_http_rule` keeps), in declaration order — not just one of them -/
theorem declared_bindings_in_table (res : List Str) (pre post : List YamlRule) (r : YamlRule)
    (hsel : "google.longrunning.Operations".toList.isPrefixOf r.selector = true)
    (hlast : ∀ r' ∈ post, r'.selector ≠ r.selector) :
    (r.selector, ruleRows res r) ∈ opsHttpTable res (pre ++ r :: post) ∧
    ∀ b ∈ r.primary :: r.additional, ∀ row, parseBinding res b = some row →
      ∃ e ∈ opsHttpTable res (pre ++ r :: post), e.1 = r.selector ∧ row ∈ e.2 := by
  have hmem : (r.selector, ruleRows res r) ∈ opsHttpTable res (pre ++ r :: post) :=
    mem_of_lookupSel (by rw [lookupSel_opsHttpTable _ _ _ hsel, find_last_rule pre post r hlast]; rfl)
  exact ⟨hmem, fun b hb row hrow => ⟨_, hmem, rfl, List.mem_filterMap.mpr ⟨b, hb, hrow⟩⟩⟩

/-- `**` takes any non-empty run of segments -/
theorem matchSegs_dstar (ps : List Seg) (pre xs : List Str) (hpre : pre ≠ []) (h : matchSegs ps xs = true) :
    matchSegs (.dstar :: ps) (pre ++ xs) = true := by
  induction pre with
  | nil => exact absurd rfl hpre
  | cons a pre ih =>
    rw [List.cons_append, matchSegs]
    cases pre with
    | nil => rw [List.nil_append, h]; rfl
    | cons b pre => rw [ih (List.cons_ne_nil b pre), Bool.or_true]

/-- the default pattern accepts the names `<one or more segments>/operations/<id>` -/
theorem default_pattern_accepts (pre : List Str) (x : Str) (hpre : pre ≠ []) :
    matchSegs [.dstar, .lit "operations".toList, .star] (pre ++ ["operations".toList, x]) = true :=
  matchSegs_dstar _ pre _ hpre (by simp [matchSegs])

/-- a name accepted by the template of ANY row of the table gets a URL: the poll is sent -/
theorem transcodeName_isSome_of_row (rows : List Row) (row : Row) (t : NameTemplate) (name : Str)
    (hrow : row ∈ rows) (ht : parseNameTemplate row.uri = some t) (hm : matchSegs t.pattern (splitOn '/' name) = true) :
    (transcodeName rows name).isSome = true := by
  unfold transcodeName
  rw [List.findSome?_isSome_iff]
  exact ⟨row, hrow, by simp [ht, hm]⟩

/-- **an operation whose name fits any declared GetOperation binding can be polled** (primary, middle or last) -/
theorem declared_get_binding_is_pollable (res : List Str) (pre post : List YamlRule) (r : YamlRule) (pfx name : Str)
    (hsel : r.selector = getOperationSelector)
    (hlast : ∀ r' ∈ post, r'.selector ≠ r.selector)
    (b : Binding) (hb : b ∈ r.primary :: r.additional) (row : Row) (hrow : parseBinding res b = some row)
    (t : NameTemplate) (ht : parseNameTemplate row.uri = some t) (hm : matchSegs t.pattern (splitOn '/' name) = true) :
    (opsGetPath (opsHttpTable res (pre ++ r :: post)) pfx name).isSome = true := by
  rw [opsGetPath_opsHttpTable, ← hsel, find_last_rule pre post r hlast]
  exact transcodeName_isSome_of_row _ row t name (List.mem_filterMap.mpr ⟨b, hb, hrow⟩) ht hm

def getRule (uri : String) (more : List Binding := []) : YamlRule :=
  ⟨getOperationSelector, ⟨"get".toList, uri.toList, []⟩, more⟩

/-! default rule; a yaml rule; an additional binding that fits when the primary does not; the last of two
rules with the same selector wins; rules of other services never reach the operations client -/

example : opsGetPath (opsHttpTable [] []) "v2".toList "shelves/s1/operations/op7".toList
    = some ("get".toList, "/v2/shelves/s1/operations/op7".toList) := by
  rw [opsGetPath_opsHttpTable]
  unfold getOperationSelector
  simp -index only [String.toList_ofList]
  decide +kernel
example : opsGetPath (opsHttpTable [] [getRule "/v9/{name=shelves/*/operations/*}"]) "v2".toList "shelves/s1/operations/op7".toList
    = some ("get".toList, "/v9/shelves/s1/operations/op7".toList) := by
  rw [opsGetPath_opsHttpTable]
  unfold getRule getOperationSelector
  simp -index only [String.toList_ofList]
  decide +kernel
example : opsGetPath (opsHttpTable [] [getRule "/v9/{name=operations/*}" [⟨"get".toList, "/v8/{name=shelves/*/operations/*}:poll".toList, []⟩]])
    "v2".toList "shelves/s1/operations/op7".toList = some ("get".toList, "/v8/shelves/s1/operations/op7:poll".toList) := by
  rw [opsGetPath_opsHttpTable]
  unfold getRule getOperationSelector
  simp -index only [String.toList_ofList]
  decide +kernel
example : opsGetPath (opsHttpTable [] [getRule "/v9/{name=**}", getRule "/v7/{name=**}"]) "v2".toList "a/operations/b".toList
    = some ("get".toList, "/v7/a/operations/b".toList) := by
  rw [opsGetPath_opsHttpTable]
  unfold getRule getOperationSelector
  simp -index only [String.toList_ofList]
  decide +kernel
example : opsHttpTable [] [⟨"acme.lib.v1.Library.GetOperation".toList, ⟨"get".toList, "/x/{name=**}".toList, []⟩, []⟩] = [] := by
  rw [opsHttpTable]
  simp -index only [String.toList_ofList]
  decide +kernel

/-! a GetOperation rule with three bindings (operations under shelves, archives, projects/locations): names fitting the
primary, the middle and the last binding are all polled, each at its own URL (hypotheses of `declared_bindings_in_table` /
`declared_get_binding_is_pollable` are met); a table that kept only the LAST binding would have no URL for the first two -/

def getRule3 : YamlRule := getRule "/v1/{name=shelves/*/operations/*}"
  [⟨"get".toList, "/v1/{name=archives/*/operations/*}".toList, []⟩, ⟨"get".toList, "/v2/{name=projects/*/locations/*/operations/*}".toList, []⟩]
example : (opsHttpTable [] [getRule3]).map (fun e => e.2.length) = [3] := by
  rw [opsHttpTable]
  unfold getRule3 getRule getOperationSelector
  simp -index only [String.toList_ofList]
  decide +kernel
example : opsGetPath (opsHttpTable [] [getRule3]) "v1".toList "shelves/s1/operations/op7".toList
    = some ("get".toList, "/v1/shelves/s1/operations/op7".toList) := by
  rw [opsGetPath_opsHttpTable]
  unfold getRule3 getRule getOperationSelector
  simp -index only [String.toList_ofList]
  decide +kernel
example : opsGetPath (opsHttpTable [] [getRule3]) "v1".toList "archives/a1/operations/op7".toList
    = some ("get".toList, "/v1/archives/a1/operations/op7".toList) := by
  rw [opsGetPath_opsHttpTable]
  unfold getRule3 getRule getOperationSelector
  simp -index only [String.toList_ofList]
  decide +kernel
example : opsGetPath (opsHttpTable [] [getRule3]) "v1".toList "projects/p/locations/l/operations/op7".toList
    = some ("get".toList, "/v2/projects/p/locations/l/operations/op7".toList) := by
  rw [opsGetPath_opsHttpTable]
  unfold getRule3 getRule getOperationSelector
  simp -index only [String.toList_ofList]
  decide +kernel
example : opsGetPath (opsHttpTable [] [getRule "/v2/{name=projects/*/locations/*/operations/*}"]) "v1".toList "shelves/s1/operations/op7".toList
    = none := by
  rw [opsGetPath_opsHttpTable]
  unfold getRule getOperationSelector
  simp -index only [String.toList_ofList]
  decide +kernel
/-- a name the default pattern does not accept: no URL (api-core raises ValueError) -/
example : opsGetPath (opsHttpTable [] []) "v1".toList "operations/op1".toList = none := by
  rw [opsGetPath_opsHttpTable]
  unfold getOperationSelector
  simp -index only [String.toList_ofList]
  decide +kernel

/-! ### Sub-packages: every package the LRO code uses is the package of the file that DECLARES the service -/

theorem splitOn_eq (c : Char) (s : Str) : splitOn c s = s.splitOn c := by
  induction s with
  | nil => rfl
  | cons x xs ih => simp only [splitOn, Split.splitOn_cons, ih]; cases xs.splitOn c <;> rfl

/-- `client_package_version` of a service declared in package `p.s` is `s`, its LAST segment: for a sub-package service
that is the sub-package's own name, whatever the API's version segment is -/
theorem clientPackageVersion_last_segment (p s : Str) (hs : '.' ∉ s) : clientPackageVersion (p ++ '.' :: s) = s := by
  simp [clientPackageVersion, splitOn_eq, List.splitOn_append_cons_self, List.splitOn_eq_singleton hs]

/-- **the default poll URL follows the declaring file's package**: without a GetOperation rule in the service config the
REST operations client of a service declared in `p.s` polls `/s/{name=**/operations/*}` -/
theorem default_poll_url_of_declaring_package (table : List (Str × List Row)) (f : File) (p s name : Str)
    (hf : f.package = p ++ '.' :: s) (hs : '.' ∉ s)
    (h : table.find? (·.1 == getOperationSelector) = none) :
    opsGetPathOf table f name =
      transcodeName [⟨"get".toList, '/' :: s ++ "/{name=**/operations/*}".toList, none⟩] name := by
  rw [opsGetPathOf, hf, clientPackageVersion_last_segment p s hs, default_rule_without_yaml table s name h]

/-- with a GetOperation rule the declaring package plays no role -/
theorem yaml_poll_url_package_free (table : List (Str × List Row)) (rows : List Row) (f g : File) (name : Str)
    (h : table.find? (·.1 == getOperationSelector) = some (getOperationSelector, rows)) :
    opsGetPathOf table f name = opsGetPathOf table g name := by
  simp [opsGetPathOf, yaml_rule_overrides_default table rows _ name h]

/-- **relative names follow the declaring file's package, not the API's**: a method of a service declared in the
sub-package `p.sub` that names `X` gets `p.sub.X` (defined by any file of the request), also when the API package `p`
declares a message `X` of its own -/
theorem lro_relative_in_subpackage (api : Api) (f : File) (m : Method) (op : OpInfo) (p sub : Str)
    (hf : f.package = p ++ '.' :: sub)
    (hout : isOperation m.output = true) (hinfo : m.opInfo = some op)
    (hr : op.response ≠ []) (hm : op.metadata ≠ [])
    (hrrel : '.' ∉ op.response) (hmrel : '.' ∉ op.metadata)
    (hrdef : ∃ g ∈ api, (p ++ '.' :: sub) ++ '.' :: op.response ∈ g.messages)
    (hmdef : ∃ g ∈ api, (p ++ '.' :: sub) ++ '.' :: op.metadata ∈ g.messages) :
    lroInfo api f m = .ok (some ((p ++ '.' :: sub) ++ '.' :: op.response, (p ++ '.' :: sub) ++ '.' :: op.metadata)) := by
  rw [← hf] at hrdef hmdef ⊢
  exact lro_relative_in_package_partial api f m op hout hinfo hr hm hrrel hmrel hrdef hmdef

/-! sub-package layouts.  Service `Keepers` declared in `acme.zoo.v1.keepers`, messages `Result` in BOTH `acme.zoo.v1`
(API package, another file, not imported) and `acme.zoo.v1.keepers`: the relative name denotes the sub-package's message,
the fully-qualified one the API package's; with only the API package's `Result` the relative name is a KeyError; the
default REST poll URL starts with `/keepers/`, with `/deeper/` for `acme.zoo.v1.sub.deeper` (hypotheses of
`lro_relative_in_subpackage` / `default_poll_url_of_declaring_package` are met by these inputs) -/

def zooRoot : File := ⟨"acme/zoo/v1/common.proto", "acme.zoo.v1".toList, [], ["acme.zoo.v1.Result".toList, "acme.zoo.v1.Meta".toList]⟩
def zooSub : File := ⟨"acme/zoo/v1/keepers/keepers.proto", "acme.zoo.v1.keepers".toList, [],
  ["acme.zoo.v1.keepers.Result".toList, "acme.zoo.v1.keepers.Meta".toList]⟩
def zooBare : File := ⟨"acme/zoo/v1/keepers/keepers.proto", "acme.zoo.v1.keepers".toList, ["acme/zoo/v1/common.proto"], []⟩
def zooOp (r m : String) : Method := ⟨"Feed", ".google.longrunning.Operation".toList, some ⟨r.toList, m.toList⟩⟩
example : lroInfo [zooRoot, zooSub] zooSub (zooOp "Result" "acme.zoo.v1.Meta")
    = .ok (some ("acme.zoo.v1.keepers.Result".toList, "acme.zoo.v1.Meta".toList)) := by
  -- `zooOp` spells the output type out; `lroInfo_opOut` wants it as `opOut`
  show lroInfo _ _ ⟨_, opOut, some _⟩ = _
  rw [lroInfo_opOut]
  unfold zooRoot zooSub
  simp -index only [String.toList_ofList]
  decide +kernel
example : lroInfo [zooSub, zooRoot] zooRoot (zooOp "Result" "acme.zoo.v1.keepers.Meta")
    = .ok (some ("acme.zoo.v1.Result".toList, "acme.zoo.v1.keepers.Meta".toList)) := by
  show lroInfo _ _ ⟨_, opOut, some _⟩ = _
  rw [lroInfo_opOut]
  unfold zooRoot zooSub
  simp -index only [String.toList_ofList]
  decide +kernel
example : lroInfo [zooRoot, zooBare] zooBare (zooOp "acme.zoo.v1.Result" "acme.zoo.v1.Meta")
    = .ok (some ("acme.zoo.v1.Result".toList, "acme.zoo.v1.Meta".toList)) := by
  show lroInfo _ _ ⟨_, opOut, some _⟩ = _
  rw [lroInfo_opOut]
  unfold zooRoot zooBare
  simp -index only [String.toList_ofList]
  decide +kernel
example : lroInfo [zooRoot, zooBare] zooBare (zooOp "Result" "acme.zoo.v1.Meta")
    = .error (.keyError "acme.zoo.v1.keepers.Result".toList) := by
  show lroInfo _ _ ⟨_, opOut, some _⟩ = _
  rw [lroInfo_opOut]
  unfold zooRoot zooBare
  simp -index only [String.toList_ofList]
  decide +kernel
example : clientPackageVersion "acme.zoo.v1.keepers".toList = "keepers".toList ∧ clientPackageVersion "acme.zoo.v1".toList = "v1".toList
    ∧ clientPackageVersion "acme.zoo.v1.sub.deeper".toList = "deeper".toList ∧ clientPackageVersion [] = [] := by
  simp -index only [String.toList_ofList]
  decide +kernel
example : opsGetPathOf (opsHttpTable [] []) zooSub "shelves/s1/operations/op7".toList
    = some ("get".toList, "/keepers/shelves/s1/operations/op7".toList) := by
  unfold opsGetPathOf
  rw [opsGetPath_opsHttpTable]
  unfold zooSub getOperationSelector
  simp -index only [String.toList_ofList]
  decide +kernel
example : opsGetPathOf (opsHttpTable [] [getRule "/v1/{name=shelves/*/operations/*}"]) zooSub "shelves/s1/operations/op7".toList
    = some ("get".toList, "/v1/shelves/s1/operations/op7".toList) := by
  unfold opsGetPathOf
  rw [opsGetPath_opsHttpTable]
  unfold getRule getOperationSelector zooSub
  simp -index only [String.toList_ofList]
  decide +kernel

/-! ## The future as an object: observing does not change the outcome
`_blocking_poll` absorbs a refresh and is idempotent, so every command commutes with it, up to the cancels sent:
what a future will have polled and cached once drained never changes. -/

theorem exec_append (rt mt : Str) (s : Fut) (a b : List Cmd) :
    exec rt mt s (a ++ b) = ((exec rt mt (exec rt mt s a).1 b).1, (exec rt mt s a).2 ++ (exec rt mt (exec rt mt s a).1 b).2) := by
  induction a generalizing s with
  | nil => simp [exec]
  | cons c a ih => simp [exec, ih]

theorem drain_refresh (s : Fut) : s.refresh.drain = s.drain := by
  obtain ⟨cached, pending, polls, cancels⟩ := s
  unfold Fut.refresh
  by_cases hd : cached.done = true
  · rw [if_pos hd]
  · cases pending with
    | nil => rw [if_neg hd]
    | cons r rs => simp [Fut.drain, poll, hd]; omega

theorem drain_drain (s : Fut) : s.drain.drain = s.drain := by
  simp [Fut.drain, poll_fix]

theorem drain_step (rt mt : Str) (s : Fut) (c : Cmd) :
    (step rt mt s c).1.drain = { s.drain with cancels := (step rt mt s c).1.cancels } := by
  have hr : ∀ n, ({ s.refresh with cancels := n } : Fut).drain = { s.drain with cancels := n } := fun n => by
    rw [← drain_refresh s]; rfl
  cases c with
  | metadata => rfl
  | done | running => exact hr _
  | cancel => rw [step]; split <;> exact hr _
  | result | exception => rw [← drain_drain s]; rfl

theorem drain_exec (rt mt : Str) (s : Fut) (cs : List Cmd) :
    (exec rt mt s cs).1.drain = { s.drain with cancels := (exec rt mt s cs).1.cancels } := by
  induction cs generalizing s with
  | nil => rfl
  | cons c cs ih => rw [exec, ih, drain_step]

/-- **Observation is transparent**: whatever the caller does with the future before asking for the
result (`metadata`, `done()`, `running()`, `cancel()`, `exception()`, `result()` in any order and
number), `result()` finally gives exactly what a bare `result()` gives, and the total number of
`GetOperation` polls is the same: the polls up to the first done operation, never more. -/
theorem observation_transparent (rt mt : Str) (first : OpState) (replies : List OpState) (cmds : List Cmd) :
    let r := exec rt mt (Fut.init first replies) (cmds ++ [.result])
    r.2.getLast? = some (.res (runFuture rt mt first replies).result) ∧
    r.1.polls = (runFuture rt mt first replies).polls := by
  simp only [exec_append, exec, step, drain_exec]
  constructor <;> simp [Fut.drain, Fut.init, runFuture]

/-- no command ever polls beyond the first done operation -/
theorem polls_never_exceed_history (rt mt : Str) (first : OpState) (replies : List OpState) (cmds : List Cmd) :
    (exec rt mt (Fut.init first replies) cmds).1.polls ≤ (poll first replies).2 := by
  have h : (exec rt mt (Fut.init first replies) cmds).1.polls + _ = 0 + (poll first replies).2 :=
    congrArg Fut.polls (drain_exec rt mt (Fut.init first replies) cmds)
  omega

/-- **A completed future is inert**: once the cached operation is done, no command sends anything
(no poll, no cancel): the state stays as it is.  That `cancel()` then answers False is `cancel_sends_iff_running`. -/
theorem done_future_is_inert (rt mt : Str) (s : Fut) (h : s.cached.done = true) (cmds : List Cmd) :
    (exec rt mt s cmds).1 = s := by
  have hr : s.refresh = s := by simp [Fut.refresh, h]
  have hdr : s.drain = s := by simp [Fut.drain, poll_initial_done s.cached s.pending h]
  induction cmds with
  | nil => rfl
  | cons c cs ih =>
    have : (step rt mt s c).1 = s := by
      cases c <;> simp [step, hr, hdr, h]
    simp [exec, this, ih]

/-- `cancel()` sends `CancelOperation` exactly when the operation is still not done after one refresh -/
theorem cancel_sends_iff_running (rt mt : Str) (s : Fut) :
    (step rt mt s .cancel).1.cancels = s.cancels + (if s.refresh.cached.done then 0 else 1) ∧
    (step rt mt s .cancel).2 = .flag (!s.refresh.cached.done) := by
  have : s.refresh.cancels = s.cancels := by
    unfold Fut.refresh
    split
    · rfl
    · split <;> rfl
  simp only [step]
  split <;> rename_i h <;> simp [h, this]

/-- a caller who looks at the future before asking for the result: 3 polls in total, one CancelOperation,
and the same result as a bare `result()`; afterwards the future is inert -/
example : exec "B".toList "M".toList
    (Fut.init ⟨false, some ⟨"M".toList, 1⟩, .neither⟩
      [⟨false, some ⟨"M".toList, 2⟩, .neither⟩, ⟨false, none, .neither⟩, ⟨true, some ⟨"M".toList, 4⟩, .response ⟨"B".toList, 9⟩⟩, ⟨true, none, .error 13⟩])
    [.metadata, .done, .metadata, .cancel, .result, .cancel, .exception, .running]
  = (⟨⟨true, some ⟨"M".toList, 4⟩, .response ⟨"B".toList, 9⟩⟩, [⟨true, none, .error 13⟩], 3, 1⟩,
     [.md (some (.ok "M".toList 1)), .flag false, .md (some (.ok "M".toList 2)), .flag true, .res (.ok "B".toList 9),
      .flag false, .exc none, .flag false]) := by
  simp -index only [String.toList_ofList]
  decide +kernel

/-- `exception()` on a failed operation returns the error; `result()` raises it -/
example : (exec "B".toList "M".toList (Fut.init ⟨false, none, .neither⟩ [⟨true, none, .error 5⟩]) [.exception, .result]).2
    = [.exc (some (.apiError 5)), .res (.apiError 5)] := by
  simp -index only [String.toList_ofList]
  decide +kernel

/-! ## `resolve` IS the code's current `Address.resolve`
`Pinned.Funcs.address_resolve` is the Lean translation of `gapic/schema/metadata.py: Address.resolve` produced by
harness/pyfun2lean.py; `Bridge.Funcs.address_resolve` re-proves on every run that translating /repo's current source
gives the same definition. -/

/-- Python's `c in s` for a one-character `c` -/
theorem contains_singleton (c : Char) (s : List Char) : PyRt.contains [c] s = s.contains c := by
  induction s with
  | nil => rfl
  | cons x xs ih => rw [PyRt.contains, ih, List.contains_cons]; simp only [List.isPrefixOf, Bool.and_true]

theorem resolve_is_translated (pkg : List (List Char)) (sel : List Char) :
    GapicModel.Model.Lro.resolve (PyRt.join ['.'] pkg) sel = Pinned.Funcs.address_resolve pkg sel := by
  simp only [GapicModel.Model.Lro.resolve, Pinned.Funcs.address_resolve, contains_singleton]
  cases h : sel.contains '.' <;> simp

end GapicModel.Props.C08
