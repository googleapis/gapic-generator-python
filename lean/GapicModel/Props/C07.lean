import GapicModel.Model.Paging
import GapicModel.Lemmas.C07Steps
/-
C07 — paginated methods yield every item of every page exactly once, in order.
The big-step theorems are corollaries of one closed form (`Lemmas.C07Steps.run_eq`: `run r ps` yields the items of the pages up to the
first empty token and sends `r`, then one request per page but the last).  The pager as an OBJECT (generators sharing request and
response) is tied to it by the specs of `next` (`genNext_spec`, `itemNext_spec`) and by one preservation principle for programs of
generator operations (`exec_preserves`); `Good` is the invariant that carries the request's other fields.
-/
namespace GapicModel.Props.C07
open GapicModel.Model.Paging
open GapicModel.Lemmas.C07Steps

/-- the statement's rule, written with the code's own field lookups -/
def AIP4233 (i o : Msg) : Prop :=
  (∃ pt, get i "page_token" = some pt ∧ pt.type = .str ∧ pt.repeated = false) ∧
  (∃ npt, get o "next_page_token" = some npt ∧ npt.type = .str ∧ npt.repeated = false) ∧
  (∃ sz, sizeField i = some sz ∧ sizeOk sz = true) ∧
  (∃ f, firstRepeated o = some f)

/-- A method is paged exactly when the rule holds, and then the item field is the first repeated
field of the response. NOTE the rule as the code implements it: when `max_results` exists it alone
is consulted (a mistyped `max_results` hides a well-typed `page_size`; known finding).  Since `fix:`
e4ae11e the token fields must be singular strings. -/
theorem paged_iff (i o : Msg) (f : Field) :
    pagedField i o = some f ↔ AIP4233 i o ∧ firstRepeated o = some f := by
  unfold pagedField AIP4233
  cases get i "page_token" with
  | none => simp
  | some pt =>
    cases get o "next_page_token" with
    | none => simp
    | some npt =>
      cases sizeField i with
      | none => simp
      | some sz =>
        simp only [Option.ite_none_left_eq_some, Option.ite_none_right_eq_some, Option.some.injEq, exists_eq_left',
          not_or, Decidable.not_not, Bool.not_eq_true]
        exact ⟨fun ⟨a, b, c, d⟩ => ⟨⟨a, b, c, f, d⟩, d⟩, fun ⟨⟨a, b, c, _⟩, d⟩ => ⟨a, b, c, d⟩⟩

theorem pagedField_isSome (i o : Msg) : (pagedField i o).isSome = true ↔ AIP4233 i o := by
  rw [Option.isSome_iff_exists]
  exact ⟨fun ⟨f, hf⟩ => ((paged_iff i o f).mp hf).1, fun h => h.2.2.2.imp fun f hf => (paged_iff i o f).mpr ⟨h, hf⟩⟩

/-- `max_results` takes precedence over `page_size` whenever it exists. -/
theorem max_results_preferred (i : Msg) (f : Field) (h : get i "max_results" = some f) :
    sizeField i = some f := by
  simp [sizeField, h]

/-- the size field may be any integer kind or the two wrapper messages, nothing else. -/
theorem size_types_exact (f : Field) :
    sizeOk f = true ↔ f.type = .int ∨ f.type = .msg "UInt32Value" ∨ f.type = .msg "Int32Value" := by
  unfold sizeOk
  cases h : f.type <;> simp

example : pagedField
    [⟨"parent", .str, false⟩, ⟨"page_size", .int, false⟩, ⟨"page_token", .str, false⟩]
    [⟨"total", .int, false⟩, ⟨"books", .msg "Book", true⟩, ⟨"extras", .str, true⟩, ⟨"next_page_token", .str, false⟩]
    = some ⟨"books", .msg "Book", true⟩ := by decide +kernel

/-- a mistyped `max_results` hides a well-typed `page_size` (the code's reading; compare the statement) -/
theorem mistyped_max_results_hides_page_size :
    pagedField
      [⟨"page_size", .int, false⟩, ⟨"max_results", .str, false⟩, ⟨"page_token", .str, false⟩]
      [⟨"items", .str, true⟩, ⟨"next_page_token", .str, false⟩] = none := by decide +kernel

/-- a repeated `next_page_token` is not a pagination token (`fix:` e4ae11e) -/
theorem repeated_token_not_paged :
    pagedField
      [⟨"page_size", .int, false⟩, ⟨"page_token", .str, false⟩]
      [⟨"items", .str, true⟩, ⟨"next_page_token", .str, true⟩] = none := by decide +kernel

/-! ## The page loop (all histories, by induction) -/

variable {ι ρ : Type}

/-- **Every item of every page exactly once, in server order, stopping at the first empty token.** -/
theorem items_all_once_in_order (r0 : Req ρ) (p0 : Page ι) (srv : List (Page ι)) :
    (run r0 (p0 :: srv)).1 = (takeThrough (p0 :: srv)).flatMap (·.items) := by
  rw [run_eq]

/-- three pages with an empty middle page; the fourth is never fetched -/
example : (run (ρ := Unit) ⟨[], ()⟩
    [⟨[1, 2], ['a']⟩, ⟨[], ['b']⟩, ⟨[3], []⟩, ⟨[99], []⟩]) =
    ([1, 2, 3], [⟨[], ()⟩, ⟨['a'], ()⟩, ⟨['b'], ()⟩]) := by decide +kernel

/-- nothing after the first empty token is fetched or yielded -/
theorem stops_at_first_empty_token (r0 : Req ρ) (pre : List (Page ι)) (p : Page ι) (post : List (Page ι))
    (hpre : ∀ q ∈ pre, q.token ≠ []) (hp : p.token = []) :
    (run r0 (pre ++ p :: post)).1 = (pre ++ [p]).flatMap (·.items) ∧
    (run r0 (pre ++ p :: post)).2.length = pre.length + 1 := by
  have hT : takeThrough (pre ++ p :: post) = pre ++ [p] := by
    rw [takeThrough_append pre _ hpre, takeThrough_cons, if_pos hp]
  rw [run_eq, hT]
  simp

/-- **Requests thread the tokens**: the first request is the caller's; request `k+1` is the caller's
request with `page_token` replaced by the token of page `k`; every other field and the call options
(`other`) are unchanged. -/
theorem requests_thread_tokens (r0 : Req ρ) (p0 : Page ι) (srv : List (Page ι)) :
    ∀ r ∈ (run r0 (p0 :: srv)).2, r.other = r0.other := by
  rw [run_eq]
  exact List.forall_mem_cons.mpr ⟨rfl, List.forall_mem_map.mpr fun _ _ => rfl⟩

/-- the tokens sent are exactly the tokens received, in order -/
theorem request_tokens (r0 : Req ρ) (p0 : Page ι) (srv : List (Page ι)) :
    ((run r0 (p0 :: srv)).2.map (·.token)).tail <+: (takeThrough (p0 :: srv)).map (·.token) := by
  rw [run_eq]
  simpa [Function.comp_def] using (List.dropLast_prefix (takeThrough (p0 :: srv))).map (·.token)

/-- **The requests, exactly**: the caller's request, then one request per page received before the
last one, each the caller's request with `page_token` replaced by that page's token (so: call
count = page count, tokens threaded in order, every other field and the call options unchanged).
Unconditional: also when the scripted history runs out. -/
theorem requests_exact (r0 : Req ρ) (p0 : Page ι) (srv : List (Page ι)) :
    (run r0 (p0 :: srv)).2 =
      r0 :: (takeThrough (p0 :: srv)).dropLast.map (fun p => (⟨p.token, r0.other⟩ : Req ρ)) := by
  rw [run_eq]

/-- **Token VALUES carry no meaning**: no theorem above assumes the tokens of a history distinct.  In
particular a page that carries the same (non-empty) token as the page before it — or as the caller's own
`page_token` (`r0.token` is arbitrary) — does not end the listing: both pages and everything up to the
first EMPTY token are yielded, one request per page. -/
theorem repeated_token_does_not_stop (r0 : Req ρ) (p q : Page ι) (rest : List (Page ι))
    (hp : p.token ≠ []) (hq : q.token = p.token) :
    (run r0 (p :: q :: rest)).1 = p.items ++ q.items ++ (takeThrough rest).flatMap (·.items) ∧
    (run r0 (p :: q :: rest)).2.length = 2 + (takeThrough rest).length := by
  rw [run_eq, takeThrough_cons, if_neg hp, takeThrough_cons, if_neg (hq ▸ hp)]
  simp
  omega

/-- `repeated_token_does_not_stop`: the history of seeded change seed10_C07 — `[b1,b2]/"cur-2"`, `[]/"cur-2"`, `[b3]/""` —
listed by a caller who resumes with that very token: all three items, three requests, the token sent twice more -/
example : (run (ρ := Unit) ⟨"cur-2".toList, ()⟩
    [⟨[1, 2], "cur-2".toList⟩, ⟨[], "cur-2".toList⟩, ⟨[3], []⟩]) =
    ([1, 2, 3], [⟨"cur-2".toList, ()⟩, ⟨"cur-2".toList, ()⟩, ⟨"cur-2".toList, ()⟩]) := by
  simp -index only [String.toList_ofList]; decide +kernel
example : (⟨[1, 2], "cur-2".toList⟩ : Page Nat).token ≠ [] ∧
    (⟨[], "cur-2".toList⟩ : Page Nat).token = (⟨[1, 2], "cur-2".toList⟩ : Page Nat).token := by
  simp -index only [String.toList_ofList]; decide +kernel

/-- **`page_size` is just another request field** (it lives in `Req.other`): what the pager yields does not
depend on the caller's request at all — in particular a non-final page SHORTER than the requested page size
(AIP-158 allows short and empty pages with a token) does not end the listing — and by `requests_exact` /
`requests_thread_tokens` every request carries it unchanged. -/
theorem page_size_does_not_stop (r0 r0' : Req ρ) (p0 : Page ι) (srv : List (Page ι)) :
    (run r0 (p0 :: srv)).1 = (run r0' (p0 :: srv)).1 ∧ ∀ r ∈ (run r0 (p0 :: srv)).2, r.other = r0.other :=
  ⟨by rw [items_all_once_in_order, items_all_once_in_order], requests_thread_tokens r0 p0 srv⟩

/-- `page_size_does_not_stop`: the history of seeded change seed11_C07 — page sizes 2, 3, 1, 2 listed with `page_size = 3`
(`other := 3`): the short first and third pages do not stop the pager, every request carries page_size 3 -/
example : (run (ρ := Nat) ⟨[], 3⟩
    [⟨[1, 2], ['a']⟩, ⟨[3, 4, 5], ['b']⟩, ⟨[6], ['c']⟩, ⟨[7, 8], []⟩]) =
    ([1, 2, 3, 4, 5, 6, 7, 8], [⟨[], 3⟩, ⟨['a'], 3⟩, ⟨['b'], 3⟩, ⟨['c'], 3⟩]) := by decide +kernel

/-- **Attributes of the pager are those of the most recent page**: after iteration, `_response`
is the last page yielded. -/
theorem attrs_are_last_page (st : PState ι ρ) (srv : List (Page ι)) :
    (pagesGen st srv).1.getLast? = some (pagesGen st srv).2.2.resp := by
  obtain ⟨h1, _, h3⟩ := pagesGen_eq st srv
  rw [h1, h3]

/-! ## The pager as an object: every PROGRAM over its generators (small-step model)

`pager.pages` and `iter(pager)` / `pager.__aiter__()` create generator objects that share the pager's
`_request` / `_response`.  A program is any finite sequence of `Op`s: create a generator, advance
generator `i` once, read an attribute — any number of generators, in any interleaving, consumed as
far as the caller likes. -/

/-- **For every program, tokens are threaded and nothing else changes**: the pages received before
the current one (`pre`) all carried a token; the pager sent exactly those tokens, in that order, one
request per page, each on a request whose other fields and call options are the caller's; the pages
are taken from the server in server order. -/
theorem program_requests_thread_tokens (r0 : Req ρ) (p0 : Page ι) (srv : List (Page ι)) (prog : List Op) :
    ∃ pre, p0 :: srv = pre ++ (exec (World.init r0 p0 srv) prog).2.resp :: (exec (World.init r0 p0 srv) prog).2.srv ∧
      (∀ p ∈ pre, p.token ≠ []) ∧
      (exec (World.init r0 p0 srv) prog).2.sent.map (·.token) = pre.map (·.token) ∧
      (∀ r ∈ (exec (World.init r0 p0 srv) prog).2.sent, r.other = r0.other) := by
  obtain ⟨pre, h1, h2, h3, _⟩ := (Good.init r0 p0 srv).exec prog
  exact ⟨pre, h1, h2, by rw [h3, List.map_map]; rfl, h3 ▸ List.forall_mem_map.mpr fun _ _ => rfl⟩

/-- **For every program, the pager never goes past the first empty token, and its attributes are
those of the most recent page**: after `n` requests of the pager, `_response` is page `n` of the
history cut after the first empty token (in particular `n` is a valid index of that cut). -/
theorem program_attrs_most_recent_page (r0 : Req ρ) (p0 : Page ι) (srv : List (Page ι)) (prog : List Op) :
    (takeThrough (p0 :: srv))[(exec (World.init r0 p0 srv) prog).2.sent.length]? =
      some (exec (World.init r0 p0 srv) prog).2.resp := by
  obtain ⟨pre, h1, h2, h3, _⟩ := program_requests_thread_tokens r0 p0 srv prog
  have hl := congrArg List.length h3
  simp only [List.length_map] at hl
  rw [h1, takeThrough_append pre _ h2, hl, List.getElem?_append_right (Nat.le_refl _), Nat.sub_self,
    takeThrough_cons]
  rfl

/-- `pager.<attr>` reads the current `_response` and sends nothing. -/
theorem attr_reads_current_page (w : World ι ρ) :
    step w .attr = (.tok w.resp.token, w) := rfl

/-- **Advancing item iterator `i` `k` times** returns the first `k` items of its future (what it still
holds of its page, then the items of the pages of the big-step loop from the pager's current
state), then `StopIteration` for ever. -/
theorem iterate_k_times (k : Nat) (w : World ι ρ) (i : Nat) (it : GenSt × List ι) (h : w.its[i]? = some it) :
    (exec w (List.replicate k (.nextItem i))).1 =
      ((future it w).take k).map .item ++ List.replicate (k - (future it w).length) .stop := by
  induction k generalizing w it with
  | zero => simp [exec]
  | succ k ih =>
    obtain ⟨hobs, it', hit', hfut⟩ := step_nextItem w i it h
    simp only [List.replicate_succ, exec]
    rw [ih _ it' hit', hfut, hobs]
    cases future it w <;> simp [List.replicate_succ]

/-- a generator created while another one is under way starts at the pager's CURRENT page (the
cursor is the pager's, not the generator's) and walks on to the first empty token. -/
theorem fresh_iterator_starts_at_current_page (w : World ι ρ) :
    future (.fresh, []) w = (takeThrough (w.resp :: w.srv)).flatMap (·.items) := by
  simp [future, pagesFrom, (pagesGen_eq _ _).1]

/-- an item iterator created at any moment and consumed `k` items far yields the items from the pager's current page
on, up to the first empty token -/
theorem new_iterator_k_times (k : Nat) (w : World ι ρ) :
    (exec w (.newIter :: List.replicate k (.nextItem w.its.length))).1 =
      .unit :: ((((takeThrough (w.resp :: w.srv)).flatMap (·.items)).take k).map .item ++
        List.replicate (k - ((takeThrough (w.resp :: w.srv)).flatMap (·.items)).length) .stop) := by
  simp only [exec, step]
  rw [iterate_k_times k _ w.its.length (.fresh, []) (by simp), fresh_iterator_starts_at_current_page]

/-- **Refinement: `list(pager)` on a fresh pager, consumed `k` items far, is the big-step `run`**
(all items when `k` exceeds their number; a caller that stops early has seen a prefix). -/
theorem list_pager_eq_run (r0 : Req ρ) (p0 : Page ι) (srv : List (Page ι)) (k : Nat) :
    (exec (World.init r0 p0 srv) (.newIter :: List.replicate k (.nextItem 0))).1 =
      .unit :: (((run r0 (p0 :: srv)).1.take k).map .item ++
                List.replicate (k - (run r0 (p0 :: srv)).1.length) .stop) := by
  rw [items_all_once_in_order]
  exact new_iterator_k_times k (World.init r0 p0 srv)

/-- iterating a pager that has been consumed to the end once more yields the items of the LAST page
again (not all items, not nothing), and sends nothing. -/
theorem reiteration_yields_last_page (k : Nat) (w : World ι ρ) (h : w.resp.token = []) :
    (exec w (.newIter :: List.replicate k (.nextItem w.its.length))).1 =
      .unit :: ((w.resp.items.take k).map .item ++ List.replicate (k - w.resp.items.length) .stop) := by
  simpa [takeThrough_cons, h] using new_iterator_k_times k w

/-- `iterate_k_times` / `reiteration_yields_last_page`: hypotheses met -/
example : (World.init (ι := Nat) (ρ := Unit) ⟨[], ()⟩ ⟨[7, 8], []⟩ [⟨[9], []⟩]).resp.token = [] := rfl
example : ({ World.init (ι := Nat) (ρ := Unit) ⟨[], ()⟩ ⟨[7], ['t']⟩ [⟨[9], []⟩] with its := [(.fresh, [])] } : World Nat Unit).its[0]?
    = some (.fresh, []) := rfl

/-- **Pages are fetched on demand only**: creating generators and reading attributes send nothing; an
item iterator that still holds an item of its page returns it and sends nothing; one `next` on a
`pages` generator sends at most one request. -/
theorem requests_only_on_demand (w : World ι ρ) :
    (step w .newPages).2.sent = w.sent ∧ (step w .newIter).2.sent = w.sent ∧ (step w .attr).2.sent = w.sent ∧
    (∀ i g x buf, w.its[i]? = some (g, x :: buf) →
        (step w (.nextItem i)).1 = .item x ∧ (step w (.nextItem i)).2.sent = w.sent ∧
        (step w (.nextItem i)).2.resp = w.resp ∧ (step w (.nextItem i)).2.srv = w.srv) ∧
    (∀ j, (step w (.nextPage j)).2.sent.length ≤ w.sent.length + 1) := by
  refine ⟨rfl, rfl, rfl, ?_, ?_⟩
  · intro i g x buf h
    simp [step, h, itemNext]
  · intro j
    simp only [step]
    rcases w.gens[j]? with _ | _ | _ | _ <;> try exact Nat.le_succ _
    simp only [genNext]
    cases hfe : fetch w with
    | none => exact Nat.le_succ _
    | some qw => obtain ⟨_, _, _, h⟩ := fetch_eq_some hfe; simp [h]

/-- `requests_only_on_demand`: an iterator holding an item -/
example : ({ World.init (ι := Nat) (ρ := Unit) ⟨[], ()⟩ ⟨[7], ['t']⟩ [⟨[9], []⟩] with its := [(.running, [7])] } : World Nat Unit).its[0]?
    = some (.running, 7 :: []) := rfl

/-- a program with two interleaved item iterators and a `pages` generator over a 4-page history with an
empty middle page: what each `next` returns, and the three requests the pager sent -/
example :
    let r := exec (ρ := Unit) (World.init ⟨[], ()⟩ ⟨[1, 2], ['a']⟩ [⟨[], ['b']⟩, ⟨[3], ['c']⟩, ⟨[4], []⟩, ⟨[99], []⟩])
      [.newIter, .nextItem 0, .attr, .newIter, .nextItem 1, .nextItem 0, .nextItem 0, .attr, .nextItem 1, .nextItem 1,
       .newPages, .nextPage 0, .nextPage 0, .nextPage 0, .nextItem 0, .nextItem 0, .attr]
    r.1 = [.unit, .item 1, .tok ['a'], .unit, .item 1, .item 2, .item 3, .tok ['c'], .item 2, .item 4,
           .unit, .page ⟨[4], []⟩, .stop, .stop, .stop, .stop, .tok []] ∧
    r.2.sent = [⟨['a'], ()⟩, ⟨['b'], ()⟩, ⟨['c'], ()⟩] := by decide +kernel

/-- the wrapping branch builds a pager exactly for a paged method that is not a google.longrunning one -/
theorem wrapOf_eq_pager (k : MethodKind) (paged fullExt : Bool) :
    wrapOf k paged fullExt = .pager ↔ k.lro = false ∧ paged = true := by
  unfold wrapOf
  cases k.lro <;> cases paged <;> cases (k.extLro && fullExt) <;> decide

/-- **A method is exposed as paginated exactly when the rule holds** (and it is not a
google.longrunning method, whose response is an Operation): the wrapping branch of both client
templates, composed with the classifier. -/
theorem exposed_as_paginated_iff (k : MethodKind) (i o : Msg) (fullExt : Bool) :
    wrapOf k (pagedField i o).isSome fullExt = .pager ↔ k.lro = false ∧ AIP4233 i o :=
  (wrapOf_eq_pager k _ fullExt).trans (and_congr_right' (pagedField_isSome i o))

/-- the pager built by the wrapping branch is the pager of this file (a first response MESSAGE and
the caller's request) exactly for unary methods. -/
theorem pager_gets_first_response_iff_unary (k : MethodKind) :
    pagerArgs k = .firstResponse ↔ k.clientStreaming = false ∧ k.serverStreaming = false := by
  unfold pagerArgs
  cases k.clientStreaming <;> cases k.serverStreaming <;> simp

/-- a server-streaming method whose messages satisfy the rule is classified and wrapped like any
other, but its pager is built around the stream object: iterating it raises (run on the real code:
`AttributeError: '_StreamingResponseIterator' object has no attribute …`); a client-streaming one
raises `NameError: name 'request' is not defined` in the client method. -/
theorem streaming_paged_pager_unusable_counterexample :
    wrapOf ⟨false, false, false, false, true⟩ true true = .pager ∧
    pagerArgs ⟨false, false, false, false, true⟩ = .streamAsResponse ∧
    wrapOf ⟨false, false, false, true, false⟩ true false = .pager ∧
    pagerArgs ⟨false, false, false, true, false⟩ = .nameError := by decide +kernel

/-- what the client method builds agrees with the type `Method.client_output` announces … -/
def Agrees : Wrap → OutKind → Prop
  | .operation, .operation => True
  | .pager, .pager => True
  | .extOperation, .extOperation => True
  | .raw, .message => True
  | .raw, .none_ => True
  | _, _ => False

instance : ∀ a b, Decidable (Agrees a b) := by
  intro a b; cases a <;> cases b <;> simp only [Agrees] <;> infer_instance

/-- … for the sync client, unless the method is an extended operation whose messages also satisfy the
pagination rule, or is void with an annotation that needs a response. -/
theorem wrap_agrees_with_client_output_partial (k : MethodKind) (paged : Bool)
    (h1 : ¬ (k.extLro = true ∧ paged = true)) (h2 : k.void = true → k.lro = false ∧ k.extLro = false ∧ paged = false) :
    Agrees (wrapOf k paged true) (clientOutput k paged) := by
  obtain ⟨v, l, e, cs, ss⟩ := k
  revert v l e cs ss paged
  decide +kernel

/-- `wrap_agrees_with_client_output_partial`: a plain paged unary method meets the hypotheses -/
example : ¬ ((⟨false, false, false, false, false⟩ : MethodKind).extLro = true ∧ true = true) ∧
    ((⟨false, false, false, false, false⟩ : MethodKind).void = true → False) := by decide +kernel

/-- the excluded point: the template takes the `paged_result_field` branch but instantiates
`method.client_output` = `ExtendedOperation` with a pager's arguments (run on the real code:
`TypeError: ExtendedOperation.__init__() missing 3 required positional arguments`). -/
theorem extended_operation_paged_mismatch_counterexample :
    ¬ Agrees (wrapOf ⟨false, false, true, false, false⟩ true true) (clientOutput ⟨false, false, true, false, false⟩ true) := by
  decide +kernel

end GapicModel.Props.C07
