import GapicModel.Model.Emit
import GapicModel.Model.NamingOptions
import GapicModel.Model.Layout
import GapicModel.Lemmas.RegexCaps
import GapicModel.Lemmas.Split
import GapicModel.Lemmas.Emit
import GapicModel.Lemmas.ValidFilename
/-
C11 — the emitted file set is well-formed and placed by package-derived naming.
Theorems about the segment-wise model of `_get_filename` / `_render_template`, instantiated on the
bridged template lists of both template sets.
-/
namespace GapicModel.Props.C11
open GapicModel.Model.Emit GapicModel.Lemmas.Emit

def templatesDefault : List Str := Pinned.templatesChars
def templatesAds : List Str := Pinned.adsTemplatesChars

/-- a normalised path segment: non-empty, no `/`, not `.` or `..` -/
def CleanSeg (s : Str) : Prop := s ≠ [] ∧ '/' ∉ s ∧ s ≠ ['.'] ∧ s ≠ ['.', '.']

/-- a value that may vanish (empty) but is otherwise a clean segment -/
def CleanOpt (s : Str) : Prop := s = [] ∨ CleanSeg s

/-- what protoc and `Naming` guarantee about the substituted values -/
structure CleanCtx (c : Ctx) : Prop where
  ns : ∀ s ∈ c.naming.nsSegs, CleanOpt s
  sub : ∀ s ∈ c.sub, CleanOpt s
  name : CleanSeg c.naming.name
  versioned : CleanSeg c.naming.versioned
  version : CleanOpt c.naming.version
  service : CleanSeg (c.service.getD ['%', 's', 'e', 'r', 'v', 'i', 'c', 'e'])
  proto : CleanSeg (c.proto.getD ['%', 'p', 'r', 'o', 't', 'o'])

def noSlashNoMulti (p : Part) : Bool :=
  match p with
  | .lit cs => !cs.contains '/'
  | .var v => v != .ns && v != .sub

def hasAnchor (p : Part) : Bool :=
  match p with
  | .lit cs => cs.any (· ≠ '.')
  | .var _ => false

def isSingleVar : List Part → Bool
  | [.var _] => true
  | _ => false

/-- shape of a template segment for which the output is provably clean:
a lone `%namespace` / `%sub`, or no `%namespace`/`%sub` inside, no `/` in literals, and either some
literal with a character other than `.` (the output is then neither empty, `.` nor `..`) or the segment is exactly one variable -/
def goodTSeg (parts : List Part) : Bool :=
  parts == [.var .ns] || parts == [.var .sub] ||
  (parts.all noSlashNoMulti && (parts.any hasAnchor || isSingleVar parts))

section Aux

theorem cleanSeg_of_anchor (s : Str) (hs : '/' ∉ s) (ch : Char) (hc : ch ∈ s) (ha : ch ≠ '.') : CleanSeg s := by
  refine ⟨?_, hs, ?_, ?_⟩ <;> (rintro rfl; simp_all)

theorem cleanSeg_of_no_dot {s : Str} (hne : s ≠ []) (hs : '/' ∉ s) (hd : '.' ∉ s) : CleanSeg s := by
  obtain ⟨ch, t, rfl⟩ := List.exists_cons_of_ne_nil hne
  exact cleanSeg_of_anchor _ hs ch List.mem_cons_self fun h => hd (h ▸ List.mem_cons_self)

theorem varText_clean (c : Ctx) (hc : CleanCtx c) (v : Var) (hv : v ≠ .ns ∧ v ≠ .sub) : CleanOpt (varText c v) := by
  cases v with
  | ns => exact absurd rfl hv.1
  | sub => exact absurd rfl hv.2
  | nameVersion => exact Or.inr hc.versioned
  | name => exact Or.inr hc.name
  | version => exact hc.version
  | service => exact Or.inr hc.service
  | proto => exact Or.inr hc.proto

theorem cleanOpt_no_slash {s : Str} (h : CleanOpt s) : '/' ∉ s := by
  rcases h with h | h
  · rw [h]
    simp
  · exact h.2.1

theorem filter_clean (l : Path) (h : ∀ s ∈ l, CleanOpt s) : ∀ s ∈ l.filter (· ≠ []), CleanSeg s := by
  intro s hs
  simp only [List.mem_filter, decide_eq_true_eq] at hs
  rcases h s hs.1 with h0 | h1
  · exact absurd h0 hs.2
  · exact h1

theorem flatten_no_slash (c : Ctx) (hc : CleanCtx c) (parts : List Part)
    (hp : parts.all noSlashNoMulti = true) : '/' ∉ (parts.map (partText c)).flatten := by
  induction parts with
  | nil => simp
  | cons p ps ih =>
    simp only [List.all_cons, Bool.and_eq_true] at hp
    simp only [List.map_cons, List.flatten_cons, List.mem_append, not_or]
    refine ⟨?_, ih hp.2⟩
    cases p with
    | lit cs => simpa [partText, noSlashNoMulti] using hp.1
    | var v =>
      have hv : v ≠ .ns ∧ v ≠ .sub := by simpa [noSlashNoMulti] using hp.1
      exact cleanOpt_no_slash (varText_clean c hc v hv)

end Aux

/-- **Every output segment is normalised** whenever the template segment has a good shape and the
substituted values are clean: no empty, `.` or `..` segment, no `/` inside a segment. -/
theorem segOut_clean (c : Ctx) (hc : CleanCtx c) (parts : List Part) (hg : goodTSeg parts = true) :
    ∀ s ∈ segOut c parts, CleanSeg s := by
  unfold segOut
  by_cases h1 : parts = [.var .ns]
  · rw [if_pos h1]
    exact filter_clean _ hc.ns
  by_cases h2 : parts = [.var .sub]
  · rw [if_neg h1, if_pos h2]
    exact filter_clean _ hc.sub
  rw [if_neg h1, if_neg h2]
  simp only [goodTSeg, Bool.or_eq_true, Bool.and_eq_true, beq_iff_eq, h1, h2, false_or] at hg
  obtain ⟨hall, hany⟩ := hg
  have hns := flatten_no_slash c hc parts hall
  intro s hs
  by_cases he : (parts.map (partText c)).flatten = []
  · simp [he] at hs
  simp only [he, if_false, List.mem_singleton] at hs
  subst hs
  rcases hany with hany | hone
  · -- some literal holds a character other than `.`
    obtain ⟨p, hp, hpa⟩ := List.any_eq_true.mp hany
    cases p with
    | var v => simp [hasAnchor] at hpa
    | lit cs =>
      obtain ⟨ch, hch, hanch⟩ := List.any_eq_true.mp hpa
      exact cleanSeg_of_anchor _ hns ch (List.mem_flatten.mpr ⟨cs, List.mem_map.mpr ⟨.lit cs, hp, rfl⟩, hch⟩)
        (by simpa using hanch)
  · -- the segment is one variable, whose value is clean or empty
    match parts, hone, hall, he with
    | [.var v], _, hall, he =>
      have hv : v ≠ .ns ∧ v ≠ .sub := by simpa [noSlashNoMulti] using hall
      rcases varText_clean c hc v hv with h0 | hcl
      · simp [partText, h0] at he
      · simpa [partText] using hcl

theorem getFilename_clean (c : Ctx) (hc : CleanCtx c) (t : TPath) (ht : ∀ seg ∈ t, goodTSeg seg = true) :
    ∀ s ∈ getFilename c t, CleanSeg s := by
  intro s hs
  simp only [getFilename, List.mem_flatten, List.mem_map] at hs
  obtain ⟨l, ⟨seg, hseg, rfl⟩, hsl⟩ := hs
  exact segOut_clean c hc seg (ht seg hseg) s hsl

/-- substitution is segment-wise: the output directory of a template directory is the image of that
directory, so two templates in one template directory land in one output directory -/
theorem getFilename_append (c : Ctx) (d rest : TPath) :
    getFilename c (d ++ rest) = getFilename c d ++ getFilename c rest :=
  Lemmas.Emit.getFilename_append c d rest

/-- **Python sources live under `<namespace>/<name>_<version>/`**: a template below
`%namespace/%name_%version/` is emitted below the namespace segments followed by the versioned module name -/
theorem python_under_package_root (c : Ctx) (rest : TPath) :
    getFilename c ([.var .ns] :: [.var .nameVersion] :: rest) =
      c.naming.nsSegs.filter (· ≠ []) ++ (if c.naming.versioned = [] then [] else [c.naming.versioned]) ++ getFilename c rest := by
  simp [getFilename, segOut, partText, varText]

example : getFilename ⟨⟨[['a', 'c', 'm', 'e']], ['l', 'i', 'b'], ['v', '1'], ['l', 'i', 'b', '_', 'v', '1']⟩, [], some ['l', 'i', 'b', 'r', 'a', 'r', 'y'], none⟩
    (parseTemplate ['%', 'n', 'a', 'm', 'e', 's', 'p', 'a', 'c', 'e', '/', '%', 'n', 'a', 'm', 'e', '_', '%', 'v', 'e', 'r', 's', 'i', 'o', 'n', '/', '%', 's', 'u', 'b', '/', 's', 'e', 'r', 'v', 'i', 'c', 'e', 's', '/', '%', 's', 'e', 'r', 'v', 'i', 'c', 'e', '/', 't', 'r', 'a', 'n', 's', 'p', 'o', 'r', 't', 's', '/', 'g', 'r', 'p', 'c', '.', 'p', 'y', '.', 'j', '2'])
    = [['a', 'c', 'm', 'e'], ['l', 'i', 'b', '_', 'v', '1'], ['s', 'e', 'r', 'v', 'i', 'c', 'e', 's'], ['l', 'i', 'b', 'r', 'a', 'r', 'y'], ['t', 'r', 'a', 'n', 's', 'p', 'o', 'r', 't', 's'], ['g', 'r', 'p', 'c', '.', 'p', 'y']] := by decide +kernel

/-- a template directory with the `%sub` segment removed (`%sub` is empty for the root view) -/
def dirKey (segs : Path) : Path := segs.filter (· ≠ ['%', 's', 'u', 'b'])

/-- template-level closure: for every non-private `.py` template below `root` and every directory
between `root` and it, some `__init__.py.j2` template has that directory (up to `%sub`) -/
def initAncestorsPresent (ts : List Str) (root : Str) : Bool :=
  let inits := (ts.filter fun t => baseName t = ['_', '_', 'i', 'n', 'i', 't', '_', '_', '.', 'p', 'y', '.', 'j', '2']).map fun t => dirKey (splitSlash t).dropLast
  ts.all fun t =>
    if startsWith root t && ['.', 'p', 'y', '.', 'j', '2'].isSuffixOf t && !isPrivate t then
      let segs := (splitSlash t).dropLast
      let nroot := (splitSlash root).length - 1          -- `root` ends with "/"
      (List.range (segs.length + 1 - nroot)).all fun k => inits.contains (dirKey (segs.take (nroot + k)))
    else true

/-- What the proofs below read off the bridged template lists as a whole.  The fields are proved together, in ONE declaration
(`templates_evaluated`), because the kernel keeps what it has evaluated for the length of one declaration: a template name
that several fields, or both lists, mention is split, parsed and tested once. -/
structure TemplateTables : Prop where
  good_default : ∀ t ∈ templatesDefault, ∀ seg ∈ parseTemplate t, goodTSeg seg = true
  good_ads : ∀ t ∈ templatesAds, ∀ seg ∈ parseTemplate t, goodTSeg seg = true
  init_closed :
    initAncestorsPresent templatesDefault "%namespace/%name_%version/".toList = true ∧
    initAncestorsPresent templatesDefault "%namespace/%name/".toList = true ∧
    initAncestorsPresent templatesAds "%namespace/%name/".toList = true
  /-- the `__init__.py.j2` templates hold `__init__`, which `_is_desired_transport` accepts, and none of the substrings the
  other service-level gates look for -/
  init_gate_words : ∀ t ∈ templatesDefault ++ templatesAds, baseName t = "__init__.py.j2".toList →
    containsSub "__init__".toList t = true ∧ containsSub "async_client".toList t = false ∧
    containsSub "rest_asyncio".toList t = false ∧ containsSub "rest_base".toList t = false
  /-- test vector over the WHOLE response of the default templates: for a package `lib.v1` no file lies below a `v1/` directory -/
  no_version_dir :
    (responseNames ⟨[['g','r','p','c']], false, false, false⟩
      (Model.Layout.shapeOf ⟨[], ['l','i','b'], ['v','1'], ['l','i','b','_','v','1']⟩ [⟨[], "lib".toList, ["library".toList]⟩])
      templatesDefault).all (fun f => !(["lib_v1".toList, "v1".toList] <+: f)) = true
  /-- test vector over the whole response, for target files `_internal.proto`, `__private.proto`: no file is called `_base.py`
  (the private template `_base.py.j2` stays skipped) -/
  no_base_py :
    (responseNames ⟨[['g','r','p','c']], false, false, false⟩
      (Model.Layout.shapeOf ⟨[['a','c','m','e']], ['l','i','b'], ['v','1'], ['l','i','b','_','v','1']⟩
        [⟨[], "lib".toList, ["library".toList]⟩, ⟨[], "_internal".toList, []⟩, ⟨["admin".toList], "__private".toList, []⟩])
      templatesDefault).all (fun f => f.getLast? ≠ some "_base.py".toList) = true

theorem templates_evaluated : TemplateTables := by
  -- one goal, so that the six fields are evaluated in one run of the kernel
  refine (fun h : _ ∧ _ ∧ _ ∧ _ ∧ _ ∧ _ => ⟨h.1, h.2.1, h.2.2.1, h.2.2.2.1, h.2.2.2.2.1, h.2.2.2.2.2⟩) ?_
  simp -index only [responseNames, all_dedup, String.toList_ofList]
  decide +kernel

/-- **Names are relative and normalised**: for every template of both sets and every clean context,
each segment of the output file name is clean (so the name has no empty, `.` or `..` segment and,
being a list of segments, no leading `/`). -/
theorem names_relative_normalised (c : Ctx) (hc : CleanCtx c) (t : Str)
    (ht : t ∈ templatesDefault ∨ t ∈ templatesAds) : ∀ s ∈ getFilename c (parseTemplate t), CleanSeg s :=
  getFilename_clean c hc _ (ht.elim (templates_evaluated.good_default t) (templates_evaluated.good_ads t))

example : CleanCtx ⟨⟨[['a', 'c', 'm', 'e'], ['c', 'l', 'o', 'u', 'd']], ['l', 'i', 'b'], ['v', '1'], ['l', 'i', 'b', '_', 'v', '1']⟩, [], some ['l', 'i', 'b', 'r', 'a', 'r', 'y'], none⟩ := by
  constructor <;> simp only [CleanOpt, CleanSeg] <;> decide

/-- **`__init__.py` closure at template level** (whole tables, both template sets) -/
theorem templates_init_closed :
    initAncestorsPresent templatesDefault ['%', 'n', 'a', 'm', 'e', 's', 'p', 'a', 'c', 'e', '/', '%', 'n', 'a', 'm', 'e', '_', '%', 'v', 'e', 'r', 's', 'i', 'o', 'n', '/'] = true ∧
    initAncestorsPresent templatesDefault ['%', 'n', 'a', 'm', 'e', 's', 'p', 'a', 'c', 'e', '/', '%', 'n', 'a', 'm', 'e', '/'] = true ∧
    initAncestorsPresent templatesAds ['%', 'n', 'a', 'm', 'e', 's', 'p', 'a', 'c', 'e', '/', '%', 'n', 'a', 'm', 'e', '/'] = true := by
  have h := templates_evaluated.init_closed
  simp -index only [String.toList_ofList] at h
  exact h

/-- `__init__.py.j2` templates are never filtered by the transport / async gates, whatever the options -/
theorem init_templates_never_gated (o : Opts) :
    ∀ t ∈ templatesDefault ++ templatesAds, baseName t = ['_', '_', 'i', 'n', 'i', 't', '_', '_', '.', 'p', 'y', '.', 'j', '2'] → serviceGate t o = true := by
  intro t ht hb
  have key := templates_evaluated.init_gate_words
  simp -index only [String.toList_ofList] at key
  obtain ⟨h1, h2, h3, h4⟩ := key t ht hb
  unfold serviceGate isDesiredTransport
  rw [h2, h3, h4]
  simp only [List.any_append, List.any_cons, h1, Bool.true_or, Bool.not_true, Bool.and_false, Bool.false_and,
    Bool.or_false, Bool.not_false]

/-- **Underscore-prefixed templates are not emitted** (and `__init__.py.j2` is not one of them) -/
theorem private_templates_skipped (o : Opts) (sh : Shape) (ts : List Str) (p : Path)
    (hp : p ∈ renders o sh ts) : ∃ t ∈ ts, isPrivate t = false ∧ p ∈ renderTemplate o sh t := by
  obtain ⟨t, ht, hpriv, -, hpt⟩ := mem_renders.mp hp
  exact ⟨t, ht, hpriv, hpt⟩

/-- `gapic_metadata.json` is emitted only with the `metadata` option -/
theorem metadata_gate (o : Opts) (sh : Shape) (t : Str) (hm : o.metadata = false)
    (ht : ['g', 'a', 'p', 'i', 'c', '_', 'm', 'e', 't', 'a', 'd', 'a', 't', 'a', '.', 'j', 's', 'o', 'n', '.', 'j', '2'].isSuffixOf t = true) : renderTemplate o sh t = [] := by
  simp [renderTemplate, hm, ht]

/-- nothing is emitted per dependency file: `%proto` templates range over the target protos of the shape only -/
theorem proto_files_only_for_target_protos (o : Opts) (nm : Naming) (tname : Str) (t : TPath) (view : Path)
    (services protos : List Str) (h : hasVar t .proto = true) :
    renderView o nm tname t view services protos = protos.map fun p => getFilename ⟨nm, view, none, some p⟩ t := by
  simp [renderView, h]

/-! ## Options are parsed permissively; package root derived from the proto package -/

section OptionsNaming
open GapicModel.Model.NamingOptions

theorem splitOn_eq (c : Char) (s : List Char) : splitOn c s = s.splitOn c := by
  induction s with
  | nil => rfl
  | cons x xs ih =>
    obtain ⟨h, t, e⟩ := List.exists_cons_of_ne_nil (List.splitOn_ne_nil c xs)
    simp only [splitOn, Split.splitOn_cons, ih, e]
    rfl

theorem joinDots_eq (l : List (List Char)) : joinDots l = ['.'].intercalate l := by
  induction l using joinDots.induct <;> simp_all [joinDots]

theorem splitOn_append (sep : Char) (a b : List Char) :
    splitOn sep (a ++ sep :: b) = splitOn sep a ++ splitOn sep b := by
  simp only [splitOn_eq, List.splitOn_append_cons_self]

/-- the options are read one by one: `parseOpts` distributes over `,` -/
theorem parseOpts_append (flags : List (List Char)) (a b : List Char) :
    parseOpts flags (a ++ ',' :: b) = parseOpts flags a ++ parseOpts flags b := by
  simp only [parseOpts, splitOn_append, List.flatMap_append]

theorem parseOpts_single (flags : List (List Char)) {opt : List Char} (h : ',' ∉ opt) :
    parseOpts flags opt = contributes flags opt := by
  simp [parseOpts, splitOn_eq, List.splitOn_eq_singleton h]

theorem contributes_foreign (flags : List (List Char)) (opt : List Char)
    (hflag : flags.contains (keyValue (strip opt)).1 = false)
    (hpre : prefixGapic.isPrefixOf (keyValue (strip opt)).1 = false) : contributes flags opt = [] := by
  simp only [contributes, hflag, hpre]
  rfl

/-- **Unknown options are ignored**: appending `,<opt>` to the parameter string leaves what `Options.build`
reads unchanged whenever the option's key (the text before the first `=`, blanks stripped) is neither a
known flag nor carries the `python-gapic-` prefix.  Any option string, any value (including values with
further `=` signs, see the `fix:` commit 3b10480). -/
theorem unknown_options_ignored (flags : List (List Char)) (s opt : List Char)
    (hflag : flags.contains (keyValue (strip opt)).1 = false)
    (hpre : prefixGapic.isPrefixOf (keyValue (strip opt)).1 = false)
    (hcomma : ',' ∉ opt) :
    parseOpts flags (s ++ ',' :: opt) = parseOpts flags s := by
  rw [parseOpts_append, parseOpts_single flags hcomma, contributes_foreign flags opt hflag hpre, List.append_nil]

/-- **A key is ours iff it STARTS with `python-gapic-`**: an option of another plugin whose key merely CONTAINS the
prefix (`legacy-python-gapic-name=hijacked`, `x-python-gapic-namespace=evil.corp`: some non-empty head `c :: w` not
beginning with `p`, then the prefix, then any suffix — also a suffix this plugin knows) contributes nothing to the
parsed options, whether it comes after the genuine options or before them. -/
theorem foreign_key_containing_prefix_ignored (flags : List (List Char)) (s opt w suffix v : List Char) (c : Char)
    (hkv : keyValue (strip opt) = (c :: w ++ prefixGapic ++ suffix, v)) (hc : c ≠ 'p')
    (hflag : flags.contains (c :: w ++ prefixGapic ++ suffix) = false) (hcomma : ',' ∉ opt) :
    parseOpts flags (s ++ ',' :: opt) = parseOpts flags s ∧ parseOpts flags (opt ++ ',' :: s) = parseOpts flags s := by
  have hnone : contributes flags opt = [] :=
    contributes_foreign flags opt (by rw [hkv]; exact hflag) (by rw [hkv]; simp [prefixGapic, List.isPrefixOf, hc.symm])
  simp only [parseOpts_append, parseOpts_single flags hcomma, hnone, List.append_nil, List.nil_append, and_self]

/-- the hypotheses are met by such options, for every known suffix; and the genuine key IS read -/
example :
    let flags := Pinned.optFlags.map String.toList
    (["name", "namespace", "warehouse-package-name", "transport", "templates", "metadata"].all fun sfx =>
      let opt := ("legacy-python-gapic-" ++ sfx ++ "=hijacked").toList
      keyValue (strip opt) = ('l' :: "egacy-".toList ++ prefixGapic ++ sfx.toList, "hijacked".toList) &&
      !flags.contains ('l' :: "egacy-".toList ++ prefixGapic ++ sfx.toList) &&
      parseOpts flags ("transport=rest,".toList ++ opt) == parseOpts flags "transport=rest".toList) = true ∧
    parseOpts flags "python-gapic-name=shelf".toList = [("name".toList, "shelf".toList)] := by
  simp -index only [Pinned.optFlags, List.map, List.all_cons, List.all_nil, String.toList_append, String.toList_ofList]
  decide +kernel

/-- known flags and prefixed options ARE read (so the theorem above is not vacuous about the parser) -/
example : parseOpts [['m','e','t','a','d','a','t','a'], ['t','r','a','n','s','p','o','r','t']]
    "transport=grpc+rest, metadata,zzz=1,foo=a=b,python-gapic-name=x_y".toList
    = [("transport".toList, "grpc+rest".toList), ("metadata".toList, "true".toList), ("name".toList, "x_y".toList)] := by
  simp -index only [String.toList_ofList]
  decide +kernel

/-! ### Repeated single-valued keys: which occurrence wins -/

theorem values_none (l : List (List Char × List Char)) (key : List Char) (h : ∀ p ∈ l, p.1 ≠ key) :
    values l key = [] := by
  simpa [values] using h

theorem values_mid (pre post : List (List Char × List Char)) (key v : List Char) :
    values (pre ++ (key, v) :: post) key = values pre key ++ v :: values post key := by
  simp [values]

/-- `.pop()`: the LAST occurrence of the key is read, whatever precedes it -/
theorem lastValue_last_wins (pre post : List (List Char × List Char)) (key v dflt : List Char)
    (hpost : ∀ p ∈ post, p.1 ≠ key) : lastValue (pre ++ (key, v) :: post) key dflt = v := by
  simp [lastValue, values_mid, values_none post key hpost]

/-- `[0]`: the FIRST occurrence of the key is read, whatever follows it -/
theorem firstValue_first_wins (pre post : List (List Char × List Char)) (key v dflt : List Char)
    (hpre : ∀ p ∈ pre, p.1 ≠ key) : firstValue (pre ++ (key, v) :: post) key dflt = v := by
  simp [firstValue, values_mid, values_none pre key hpre]

/-- **The last `name` wins**: for every list of parsed options, the name override `Options.build` returns is the value
of the last `name` entry -/
theorem name_override_last_wins (pre post : List (List Char × List Char)) (v : List Char)
    (hpost : ∀ p ∈ post, p.1 ≠ keyName) : (answer (pre ++ (keyName, v) :: post)).name = v :=
  lastValue_last_wins pre post keyName v [] hpost

/-- likewise for `warehouse-package-name` -/
theorem warehouse_name_last_wins (pre post : List (List Char × List Char)) (v : List Char)
    (hpost : ∀ p ∈ post, p.1 ≠ keyWarehouse) : (answer (pre ++ (keyWarehouse, v) :: post)).warehouse = v :=
  lastValue_last_wins pre post keyWarehouse v [] hpost

/-- **The first `transport` wins** -/
theorem transport_first_wins (pre post : List (List Char × List Char)) (v : List Char)
    (hpre : ∀ p ∈ pre, p.1 ≠ keyTransport) : (answer (pre ++ (keyTransport, v) :: post)).transport = splitOn '+' v := by
  show splitOn '+' (firstValue _ keyTransport _) = _
  rw [firstValue_first_wins pre post keyTransport v _ hpre]

/-- **The package directory is derived from the LAST `name` value** (and from all `namespace` values), for every
option list and every inferred naming: `<namespace…>/<module of v>_<version>` -/
theorem package_dir_from_last_name (i : Inferred) (pre post : List (List Char × List Char)) (v : List Char)
    (hpost : ∀ p ∈ post, p.1 ≠ keyName) :
    packageDir i (pre ++ (keyName, v) :: post) =
      nsWith i ((answer (pre ++ (keyName, v) :: post)).nspace.map PyRt.lower) ++ [overriddenVersioned i v] := by
  simp only [packageDir, name_override_last_wins pre post v hpost]

/-! ### Link to the machine-translated functions of `gapic/schema/naming.py` (Pinned/Funcs.lean, bridged to the current source) -/

theorem new_naming_versioned_eq (name version : List Char) :
    Pinned.Funcs.new_naming_versioned_module_name name version = if version = [] then name else name ++ '_' :: version := by
  unfold Pinned.Funcs.new_naming_versioned_module_name PyRt.truthy
  cases version <;> simp

/-- `naming.module_name` under the name override IS the translated `Naming.module_name` applied to the override text -/
theorem overriddenModule_is_translated (i : Inferred) (nameOv : List Char) :
    overriddenModule i nameOv = Pinned.Funcs.naming_module_name (if nameOv = [] then i.name else nameOverrideText nameOv) := rfl

/-- `naming.versioned_module_name` of the hand model IS the translated `NewNaming.versioned_module_name` -/
theorem overriddenVersioned_is_translated (i : Inferred) (nameOv : List Char) :
    overriddenVersioned i nameOv = Pinned.Funcs.new_naming_versioned_module_name (overriddenModule i nameOv) i.version :=
  (new_naming_versioned_eq _ _).symm

/-- without an override (inference only) -/
theorem versionedModule_is_translated (i : Inferred) :
    versionedModule i = Pinned.Funcs.new_naming_versioned_module_name i.name i.version :=
  (new_naming_versioned_eq _ _).symm

/-- the namespace DIRECTORIES (`i.lower()` of the namespace, what `_get_filename` joins) are the translated
`Naming.module_namespace` (what the emitted imports join) whenever every segment is a fixed point of
`to_valid_module_name` — i.e. directory path = import path -/
theorem namespace_dirs_are_module_namespace (segs : List (List Char))
    (h : ∀ s ∈ segs, Pinned.Funcs.to_valid_module_name s = s) : Pinned.Funcs.naming_module_namespace segs = segs :=
  (List.map_congr_left (g := id) h).trans (List.map_id segs)

/-- **`packageDir` in terms of the translated functions**: `module_namespace ++ [versioned_module_name(module_name(name))]` -/
theorem packageDir_is_translated (i : Inferred) (kv : List (List Char × List Char))
    (h : ∀ s ∈ nsWith i ((answer kv).nspace.map PyRt.lower), Pinned.Funcs.to_valid_module_name s = s) :
    packageDir i kv =
      Pinned.Funcs.naming_module_namespace (nsWith i ((answer kv).nspace.map PyRt.lower)) ++
      [Pinned.Funcs.new_naming_versioned_module_name
        (Pinned.Funcs.naming_module_name (if (answer kv).name = [] then i.name else nameOverrideText (answer kv).name)) i.version] := by
  rw [namespace_dirs_are_module_namespace _ h, ← overriddenModule_is_translated, ← overriddenVersioned_is_translated]
  rfl

/-- the fixed-point hypothesis holds for ordinary namespace segments (the regex engine runs the pinned pattern) -/
example : ∀ s ∈ ["google".toList, "cloud".toList, "x_y".toList, "a1".toList], Pinned.Funcs.to_valid_module_name s = s := by
  simp -index only [String.toList_ofList]
  decide +kernel

/-- at the level of the option STRING: appending `,python-gapic-name=<v>` makes `<v>` the name override, whatever
the string held before (earlier `python-gapic-name=` options included) -/
theorem appended_name_wins (flags : List (List Char)) (s opt v : List Char) (hcomma : ',' ∉ opt)
    (hkv : keyValue (strip opt) = (prefixGapic ++ keyName, v))
    (hflag : flags.contains (prefixGapic ++ keyName) = false) :
    (answer (parseOpts flags (s ++ ',' :: opt))).name = v := by
  have hc : contributes flags opt = [(keyName, v)] := by
    simp only [contributes, hkv, hflag]
    simp [prefixGapic, keyName]
  rw [parseOpts_append, parseOpts_single flags hcomma, hc]
  exact name_override_last_wins _ [] v (by simp)

/-- the hypotheses are met by real option strings, and the winners are as stated -/
example :
    let kv := parseOpts (Pinned.optFlags.map String.toList)
      "python-gapic-name=lib,transport=rest,zzz=1,python-gapic-name=book_shelf,transport=grpc,python-gapic-namespace=org.acme".toList
    (answer kv).name = "book_shelf".toList ∧ (answer kv).transport = ["rest".toList] ∧
    keyValue (strip "python-gapic-name=book_shelf".toList) = (prefixGapic ++ keyName, "book_shelf".toList) ∧
    (Pinned.optFlags.map String.toList).contains (prefixGapic ++ keyName) = false ∧
    packageDir ⟨"acme".toList, "lib".toList, "v1".toList⟩ kv = ["org".toList, "acme".toList, "book_shelf_v1".toList] := by
  simp -index only [Pinned.optFlags, List.map, String.toList_ofList]
  decide +kernel

/-- naming inference on concrete packages, evaluated by the regex engine on the pinned patterns -/
theorem naming_examples :
    infer "acme.cloud.lib.v1".toList = some ⟨"acme.cloud".toList, "lib".toList, "v1".toList⟩ ∧
    infer "lib.v1p1beta1".toList = some ⟨[], "lib".toList, "v1p1beta1".toList⟩ ∧
    infer "acme.lib".toList = some ⟨"acme".toList, "lib".toList, []⟩ ∧
    versionedModule ⟨"acme".toList, "lib".toList, "v1beta1".toList⟩ = "lib_v1beta1".toList ∧
    versionedModule ⟨"acme".toList, "lib".toList, []⟩ = "lib".toList := by
  simp -index only [String.toList_ofList]
  decide +kernel

end OptionsNaming

/-! ## The inferred package root is made of clean path segments — for EVERY proto package -/

section NamingClean
open GapicModel.Regex GapicModel.Model.NamingOptions

def badName : List Char := ['/', '.']
def badNs : List Char := ['/']

/-- what the captures of a naming pattern are read through: the `name` group (3) lies on every path and its bodies
consume at least one character, and the bodies of `namespace` (2), `name` (3) and `version` (4 after concatenation) accept
no `/` (and no `.` for name and version) -/
def CleanGroups (re : Re) : Prop :=
  mustCap 3 re = true ∧ ∀ p ∈ groupsOf re,
    (p.1 = 3 → safeRe badName p.2 = true ∧ consumesOne p.2 = true) ∧ (p.1 = 2 → safeRe badNs p.2 = true) ∧
    (p.1 = 4 → safeRe badName p.2 = true)

/-- finite facts about the two pinned patterns (`pattern` and `pattern + version`) -/
theorem pattern_facts : CleanGroups Pinned.namingPattern.re ∧ CleanGroups fullPattern := by
  unfold CleanGroups
  decide

theorem groups_clean (re : Re) (hre : CleanGroups re) (pkg : List Char) (res : MatchRes)
    (h : pySearch Pinned.classTables re pkg = some res) :
    ((St.group? res.caps 3).getD [] ≠ [] ∧ ∀ c ∈ (St.group? res.caps 3).getD [], c ∉ badName) ∧
    (∀ c ∈ (St.group? res.caps 2).getD [], c ∉ badNs) ∧
    (∀ c ∈ (St.group? res.caps 4).getD [], c ∉ badName) := by
  obtain ⟨hm3, hf⟩ := hre
  -- a captured text holds no character that the bodies of its group exclude
  have safe : ∀ k bad, (∀ p ∈ groupsOf re, p.1 = k → safeRe bad p.2 = true) →
      ∀ c ∈ (St.group? res.caps k).getD [], c ∉ bad := by
    intro k bad hk
    cases hw : St.group? res.caps k with
    | none => simp
    | some w =>
      obtain ⟨body, hb, hmt⟩ := (search_group _ re pkg res h k).2 w hw
      exact Matches.safe hmt (hk (k, body) hb rfl)
  refine ⟨⟨?_, safe 3 badName fun p hp e => ((hf p hp).1 e).1⟩, safe 2 badNs fun p hp e => (hf p hp).2.1 e,
    safe 4 badName fun p hp e => (hf p hp).2.2 e⟩
  obtain ⟨w, hw⟩ := Option.isSome_iff_exists.mp ((search_group _ re pkg res h 3).1 hm3)
  obtain ⟨body, hb, hmt⟩ := (search_group _ re pkg res h 3).2 w hw
  rw [hw]
  exact Matches.nonempty hmt ((hf (3, body) hb).1 rfl).2

/-- **Whatever package the name is inferred from**, the inferred name is non-empty and has no `/` or `.`,
the namespace text has no `/`, the version has no `/` or `.` -/
theorem infer_clean (pkg : List Char) (i : Inferred) (h : infer pkg = some i) :
    (i.name ≠ [] ∧ ∀ c ∈ i.name, c ∉ badName) ∧ (∀ c ∈ i.ns, c ∉ badNs) ∧ (∀ c ∈ i.version, c ∉ badName) := by
  simp only [infer] at h
  split at h
  · simp at h
  · rename_i res hs
    simp only [Option.some.injEq] at h
    have hre : CleanGroups (if (pySearch Pinned.classTables Pinned.namingVersion.re pkg).isSome = true then fullPattern
        else Pinned.namingPattern.re) := by
      split
      · exact pattern_facts.2
      · exact pattern_facts.1
    have hg := groups_clean _ hre pkg res hs
    subst h
    refine ⟨hg.1, hg.2.1, ?_⟩
    simp only
    split
    · exact hg.2.2
    · simp

/-- **The package root is made of clean segments**: for every proto package from which `Naming.build` infers a
naming, each namespace directory, the module name and the versioned module name are non-empty, contain no `/`
and are neither `.` nor `..` — the hypotheses `CleanCtx` makes about the naming are consequences of the code's
own regular expressions, not assumptions about protoc. -/
theorem inferred_segments_clean (pkg : List Char) (i : Inferred) (h : infer pkg = some i) :
    (∀ s ∈ nsSegments i, CleanSeg s) ∧ CleanSeg i.name ∧ CleanSeg (versionedModule i) := by
  obtain ⟨⟨hne, hname⟩, hns, hver⟩ := infer_clean pkg i h
  have hn : ∀ ch ∈ badName, ch ∉ i.name := fun ch hb hm => hname ch hm hb
  have hv : ∀ ch ∈ badName, ch ∉ i.version := fun ch hb hm => hver ch hm hb
  have hname' : CleanSeg i.name := cleanSeg_of_no_dot hne (hn '/' (by simp [badName])) (hn '.' (by simp [badName]))
  refine ⟨?_, hname', ?_⟩
  · intro s hs
    simp only [nsSegments, List.mem_filter, decide_eq_true_eq] at hs
    obtain ⟨hdot, hsub⟩ := Split.of_mem_splitOn '.' (splitOn_eq '.' i.ns ▸ hs.1)
    exact cleanSeg_of_no_dot hs.2 (fun hm => hns _ (hsub _ hm) (by simp [badNs])) hdot
  · simp only [versionedModule]
    split
    · exact hname'
    · refine cleanSeg_of_no_dot (by simp) ?_ ?_ <;>
        simp [hn '/' (by simp [badName]), hn '.' (by simp [badName]), hv '/' (by simp [badName]), hv '.' (by simp [badName])]

/-- the theorem is about packages that do occur -/
example : ∃ i, infer ['a','c','m','e','.','l','i','b','.','v','1'] = some i ∧ nsSegments i = [['a','c','m','e']] ∧
    versionedModule i = ['l','i','b','_','v','1'] :=
  ⟨⟨['a','c','m','e'], ['l','i','b'], ['v','1']⟩, by decide +kernel⟩

/-! ### The namespace override (`python-gapic-namespace`, a repeatable key whose values may be dotted) -/

/-- **Every spelling of the override gives the same namespace**: the segments are the dot-components of each
value, concatenated in order — so `[google.cloud, ads]`, `[google, cloud, ads]` and `[google.cloud.ads]` all
place the package under `google/cloud/ads/`. -/
theorem nsOverride_eq_flatMap (vals : List (List Char)) (h : vals ≠ []) :
    nsOverride vals = vals.flatMap (splitOn '.') := by
  rw [nsOverride, funext (splitOn_eq '.'), joinDots_eq]
  exact Split.splitOn_intercalate_flatMap '.' h

/-- the spelling invariance as an equation between two option lists: a dotted value may be replaced by its two
halves given as two repeated keys, anywhere in the list -/
theorem nsOverride_spelling (pre post : List (List Char)) (x y : List Char) :
    nsOverride (pre ++ (x ++ '.' :: y) :: post) = nsOverride (pre ++ x :: y :: post) := by
  rw [nsOverride_eq_flatMap _ (by simp), nsOverride_eq_flatMap _ (by simp)]
  simp [List.flatMap_append, List.flatMap_cons, splitOn_append]

/-- **No namespace directory of the override contains a dot or a slash, none is `.`/`..`**, whenever the
dot-components of the given values are non-empty and slash-free: the directory path `a/b/c` is then exactly
the import path `a.b.c` that the emitted modules use. -/
theorem nsOverride_segments_clean (vals : List (List Char)) (hne : vals ≠ [])
    (hv : ∀ v ∈ vals, ∀ s ∈ splitOn '.' v, s ≠ [] ∧ '/' ∉ s) :
    ∀ s ∈ nsOverride vals, CleanSeg s ∧ '.' ∉ s := by
  intro s hs
  have hdot : '.' ∉ s := (Split.of_mem_splitOn '.' (by rw [← splitOn_eq]; exact hs)).1
  rw [nsOverride_eq_flatMap vals hne] at hs
  obtain ⟨v, hvm, hsv⟩ := List.mem_flatMap.mp hs
  obtain ⟨hn, hsl⟩ := hv v hvm s hsv
  exact ⟨cleanSeg_of_no_dot hn hsl hdot, hdot⟩

/-- the hypotheses are met by the usual spellings, and the three spellings agree -/
example : (∀ v ∈ ["google.cloud".toList, "ads".toList], ∀ s ∈ splitOn '.' v, s ≠ [] ∧ '/' ∉ s) ∧
    nsOverride ["google.cloud".toList, "ads".toList] = ["google".toList, "cloud".toList, "ads".toList] ∧
    nsOverride ["google.cloud.ads".toList] = ["google".toList, "cloud".toList, "ads".toList] ∧
    nsOverride ["google".toList, "cloud".toList, "ads".toList] = ["google".toList, "cloud".toList, "ads".toList] := by
  simp -index only [String.toList_ofList]
  decide +kernel

/-- the override replaces the inferred namespace only when at least one value was given -/
theorem nsWith_cases (i : Inferred) (vals : List (List Char)) :
    nsWith i [] = nsSegments i ∧ (vals ≠ [] → nsWith i vals = vals.flatMap (splitOn '.')) := by
  refine ⟨rfl, fun h => ?_⟩
  cases vals with
  | nil => exact absurd rfl h
  | cons a r =>
    exact nsOverride_eq_flatMap _ h

end NamingClean

/-! ## Response file names are unique (the `OrderedDict` of `get_response`) -/

/-- **Every response file name is unique**, and de-duplication loses no name: for every option set, API shape and
template list -/
theorem response_names_unique (o : Opts) (sh : Shape) (ts : List Str) :
    (responseNames o sh ts).Nodup ∧ ∀ p, p ∈ responseNames o sh ts ↔ p ∈ renders o sh ts :=
  ⟨nodup_dedup _, mem_dedup _⟩

/-- the de-duplication is not idle: for an UNVERSIONED package the `%namespace/%name/` alias templates and the
`%namespace/%name_%version/%sub/` templates render the same three names (`__init__.py`, `gapic_version.py`, `py.typed`),
so without it the response would carry duplicates -/
theorem unversioned_renders_have_duplicates :
    ¬ (renders ⟨[['g','r','p','c']], false, false, false⟩
        ⟨⟨[['a','c','m','e']], ['l','i','b'], [], ['l','i','b']⟩, ⟨[], [['l','i','b','r','a','r','y']], [['l','i','b']]⟩, []⟩
        templatesDefault).Nodup := by
  -- the first template `%namespace/%name/__init__.py.j2` and the fourth, `%namespace/%name_%version/%sub/__init__.py.j2`
  rw [← List.take_append_drop 3 templatesDefault]
  refine renders_not_nodup _ _ _ _ [['a','c','m','e'], ['l','i','b'], ['_','_','i','n','i','t','_','_','.','p','y']] ?_ ?_
  · exact mem_renders.mpr ⟨_, List.mem_of_mem_head? (by rfl : (templatesDefault.take 3).head? = some _),
      by decide +kernel, by decide +kernel, by decide +kernel⟩
  · exact mem_renders.mpr ⟨_, List.mem_of_mem_head? (by rfl : (templatesDefault.drop 3).head? = some _),
      by decide +kernel, by decide +kernel, by decide +kernel⟩

/-! ## Nested sub-packages: every view of the tree is rendered, every file sits under its own sub-package -/

section Nested
open GapicModel.Model.Layout

/-- the sub-package of every target file is a view, and **the views are closed under non-empty prefixes**: the
intermediate packages between the API package and a deeply nested file are rendered too, whether or not any file
lives there -/
theorem views_closed (subs : List Path) :
    (∀ p ∈ subs, p ≠ [] → p ∈ viewsOf subs) ∧
    (∀ v w, v ++ w ∈ viewsOf subs → v ≠ [] → v ∈ viewsOf subs) := by
  simp only [mem_viewsOf]
  refine ⟨fun p hp hne => ⟨hne, p, hp, [], by simp⟩, fun v w ⟨_, p, hp, x, hx⟩ hne => ⟨hne, p, hp, w ++ x, by simp [hx]⟩⟩

/-- no view is visited twice, and only prefixes of target sub-packages are views (nothing is invented) -/
theorem views_exact (subs : List Path) :
    (viewsOf subs).Nodup ∧ ∀ v ∈ viewsOf subs, v ≠ [] ∧ ∃ p ∈ subs, ∃ w, p = v ++ w :=
  ⟨nodup_dedup _, fun v hv => (mem_viewsOf subs v).mp hv⟩

/-- the two whole-template gates of `_render_template` -/
def templateOn (o : Opts) (tname : Str) : Prop :=
  ¬ (!o.metadata && ['g', 'a', 'p', 'i', 'c', '_', 'm', 'e', 't', 'a', 'd', 'a', 't', 'a', '.', 'j', 's', 'o', 'n', '.', 'j', '2'].isSuffixOf tname) = true ∧
  ¬ (startsWith ['%', 'n', 'a', 'm', 'e', 's', 'p', 'a', 'c', 'e', '/', '%', 'n', 'a', 'm', 'e', '/'] tname && o.unversionedDisabled) = true

theorem templateOn_of_alwaysOn (o : Opts) {t : Str} (h : alwaysOn t = true) : templateOn o t := by
  simp only [alwaysOn, Bool.and_eq_true, Bool.not_eq_true'] at h
  simp [templateOn, h.1.2, h.2]

/-- the files of a `%sub` template for a nested layout: those of the API package and of every view, each view seeing the
protos and services placed exactly there -/
theorem renderTemplate_shapeOf (o : Opts) (nm : Naming) (ps : List ProtoAt) (tname : Str) (hon : templateOn o tname)
    (hs : hasVar (parseTemplate tname) .sub = true) (f : Path) :
    f ∈ renderTemplate o (shapeOf nm ps) tname ↔
      ∃ v, (v = [] ∨ v ∈ viewsOf (ps.map (·.sub))) ∧
        f ∈ renderView o nm tname (parseTemplate tname) v (subPkgAt ps v).services (subPkgAt ps v).protos := by
  rw [renderTemplate_sub o _ tname hon.1 hon.2 hs, shapeViews_shapeOf]
  simp only [List.mem_flatMap, List.mem_map, List.mem_append, List.mem_singleton]
  constructor
  · rintro ⟨_, ⟨v, hv, rfl⟩, h⟩
    exact ⟨v, hv.symm, h⟩
  · rintro ⟨v, hv, h⟩
    exact ⟨_, ⟨v, hv.symm, rfl⟩, h⟩

theorem sub_view {ps : List ProtoAt} {p : ProtoAt} (hmem : p ∈ ps) : p.sub = [] ∨ p.sub ∈ viewsOf (ps.map (·.sub)) :=
  (Decidable.em (p.sub = [])).imp_right ((views_closed _).1 p.sub (List.mem_map.mpr ⟨p, hmem, rfl⟩))

/-- **One types module per target proto, under the proto's OWN sub-package path** (any depth, any gaps): a
`%sub/.../%proto` template renders, for every target file `p`, the name with `%sub = p.sub`. -/
theorem proto_file_under_own_subpackage (o : Opts) (nm : Naming) (ps : List ProtoAt) (tname : Str)
    (hon : templateOn o tname) (hs : hasVar (parseTemplate tname) .sub = true)
    (hp : hasVar (parseTemplate tname) .proto = true) (p : ProtoAt) (hmem : p ∈ ps) :
    getFilename ⟨nm, p.sub, none, some p.module⟩ (parseTemplate tname) ∈ renderTemplate o (shapeOf nm ps) tname := by
  refine (renderTemplate_shapeOf o nm ps tname hon hs _).mpr ⟨p.sub, sub_view hmem, mem_renderView.mpr ?_⟩
  rw [if_pos hp]
  exact ⟨p.module, List.mem_map.mpr ⟨p, List.mem_filter.mpr ⟨hmem, by simp⟩, rfl⟩, rfl⟩

/-- **One service package per service, under the sub-package of the file that defines it** -/
theorem service_file_under_own_subpackage (o : Opts) (nm : Naming) (ps : List ProtoAt) (tname : Str)
    (hon : templateOn o tname) (hs : hasVar (parseTemplate tname) .sub = true)
    (hp : hasVar (parseTemplate tname) .proto = false) (hv : hasVar (parseTemplate tname) .service = true)
    (hg : serviceGate tname o = true) (p : ProtoAt) (hmem : p ∈ ps) (svc : Str) (hsvc : svc ∈ p.services) :
    getFilename ⟨nm, p.sub, some svc, none⟩ (parseTemplate tname) ∈ renderTemplate o (shapeOf nm ps) tname := by
  refine (renderTemplate_shapeOf o nm ps tname hon hs _).mpr ⟨p.sub, sub_view hmem, mem_renderView.mpr ?_⟩
  simp only [hp, hv, if_true, if_false, Bool.false_eq_true]
  exact ⟨hg, svc, List.mem_flatMap.mpr ⟨p, List.mem_filter.mpr ⟨hmem, by simp⟩, hsvc⟩, rfl⟩

/-- **`__init__.py` on every directory of a nested import path**: a per-view template (`%sub/__init__.py`,
`%sub/types/__init__.py`, `%sub/services/__init__.py`, …) is rendered for the sub-package of every target file
AND for every package between it and the API package, populated or not. -/
theorem per_view_file_on_every_prefix (o : Opts) (nm : Naming) (ps : List ProtoAt) (tname : Str)
    (hon : templateOn o tname) (hs : hasVar (parseTemplate tname) .sub = true)
    (hp : hasVar (parseTemplate tname) .proto = false) (hv : hasVar (parseTemplate tname) .service = false)
    (p : ProtoAt) (hmem : p ∈ ps) (v w : Path) (hvw : p.sub = v ++ w) :
    getFilename ⟨nm, v, none, none⟩ (parseTemplate tname) ∈ renderTemplate o (shapeOf nm ps) tname := by
  refine (renderTemplate_shapeOf o nm ps tname hon hs _).mpr ⟨v, ?_, mem_renderView.mpr (by simp [hp, hv])⟩
  refine (Decidable.em (v = [])).imp_right fun hne => ?_
  rcases sub_view hmem with h | h
  · rw [hvw] at h
    exact absurd (List.append_eq_nil_iff.mp h).1 hne
  · rw [hvw] at h
    exact (views_closed _).2 v w h hne

/-- the hypotheses hold for the shipped templates, and a file two levels below an EMPTY intermediate package is
placed (and its parents get their `__init__.py`) as stated -/
example :
    let o : Opts := ⟨[['g','r','p','c']], false, false, false⟩
    let nm : Naming := ⟨[['a','c','m','e']], ['l','i','b'], ['v','1'], ['l','i','b','_','v','1']⟩
    let ps : List ProtoAt := [⟨[], "lib".toList, ["library".toList]⟩, ⟨["admin".toList, "audit".toList], "log".toList, []⟩]
    viewsOf (ps.map (·.sub)) = [["admin".toList], ["admin".toList, "audit".toList]] ∧
    "%namespace/%name_%version/%sub/types/%proto.py.j2".toList ∈ templatesDefault ∧
    "%namespace/%name_%version/%sub/__init__.py.j2".toList ∈ templatesDefault ∧
    [["acme".toList, "lib_v1".toList, "admin".toList, "audit".toList, "types".toList, "log.py".toList],
     ["acme".toList, "lib_v1".toList, "types".toList, "lib.py".toList],
     ["acme".toList, "lib_v1".toList, "admin".toList, "__init__.py".toList],
     ["acme".toList, "lib_v1".toList, "admin".toList, "audit".toList, "__init__.py".toList],
     ["acme".toList, "lib_v1".toList, "admin".toList, "audit".toList, "types".toList, "__init__.py".toList]].all
      (fun f => (responseNames o (shapeOf nm ps) templatesDefault).contains f) = true := by
  -- the three templates that yield the five files
  have hsub : ∀ t ∈ ["%namespace/%name_%version/%sub/types/%proto.py.j2".toList, "%namespace/%name_%version/%sub/__init__.py.j2".toList,
      "%namespace/%name_%version/%sub/types/__init__.py.j2".toList], t ∈ templatesDefault := by
    simp -index only [String.toList_ofList]
    decide +kernel
  simp -index only [String.toList_ofList] at hsub ⊢
  exact ⟨by decide +kernel, hsub _ List.mem_cons_self, hsub _ (.tail _ List.mem_cons_self), List.all_eq_true.mpr fun f hf =>
    responseNames_contains_mono hsub (List.all_eq_true.mp (by decide +kernel) f hf)⟩

/-! ### Dependency-only files contribute no directory -/

/-- **Nothing is emitted for dependency-only files — directories included.**  `shapeOf` is built from the TARGET protos
only, and every file any template renders is `getFilename` at a view that is the API package itself (`[]`) or a
non-empty prefix of the sub-package of some TARGET proto: whatever the packages of the dependency files are (longer
than the API package or not), they supply no `%sub` directory. -/
theorem rendered_views_from_targets (o : Opts) (nm : Naming) (ps : List ProtoAt) (tname : Str) (f : Path)
    (hf : f ∈ renderTemplate o (shapeOf nm ps) tname) :
    ∃ v, (v = [] ∨ (v ≠ [] ∧ ∃ p ∈ ps, ∃ w, p.sub = v ++ w)) ∧
      ∃ svc proto, f = getFilename ⟨nm, v, svc, proto⟩ (parseTemplate tname) := by
  by_cases hon : templateOn o tname
  · by_cases hs : hasVar (parseTemplate tname) .sub = true
    · obtain ⟨v, hv, h⟩ := (renderTemplate_shapeOf o nm ps tname hon hs f).mp hf
      refine ⟨v, hv.imp_right fun hv => ?_, renderView_view h⟩
      obtain ⟨hne, q, hq, w, hw⟩ := (mem_viewsOf _ v).mp hv
      obtain ⟨p, hp, rfl⟩ := List.mem_map.mp hq
      exact ⟨hne, p, hp, w, hw⟩
    · simp only [renderTemplate, hon.1, hon.2, hs] at hf
      exact ⟨[], Or.inl rfl, renderView_view hf⟩
  · simp only [templateOn, Decidable.not_and_iff_not_or_not, Decidable.not_not] at hon
    rcases hon with h | h <;> simp [renderTemplate, h] at hf

/-- e.g. target `lib.v1` with one file: whatever else is in the request, no file of the response lies in a `v1/`
directory below the package root (`google.iam.v1` as a dependency would suggest one) -/
example :
    let o : Opts := ⟨[['g','r','p','c']], false, false, false⟩
    let nm : Naming := ⟨[], ['l','i','b'], ['v','1'], ['l','i','b','_','v','1']⟩
    (responseNames o (shapeOf nm [⟨[], "lib".toList, ["library".toList]⟩]) templatesDefault).all
      (fun f => !(["lib_v1".toList, "v1".toList] <+: f)) = true :=
  templates_evaluated.no_version_dir

/-! ### The "private" rule is about TEMPLATE names, never about the names of the files a template yields -/

def typesTemplate : Str := "%namespace/%name_%version/%sub/types/%proto.py.j2".toList

/-- finite facts about the shipped types template: it is in the template list, no rule on the template name drops it whatever
the options, and it is `%sub/types/` below the package root with `%proto` followed by `.py` as its last path segment -/
theorem typesTemplate_facts :
    typesTemplate ∈ templatesDefault ∧ alwaysOn typesTemplate = true ∧
    parseTemplate typesTemplate =
      [[.var .ns], [.var .nameVersion], [.var .sub], [.lit "types".toList]] ++ [[.var .proto, .lit ".py".toList]] := by
  unfold typesTemplate
  simp -index only [String.toList_ofList]
  decide +kernel

/-- **Every target proto file yields its types module, whatever its name**: for every option set, naming and list of
target protos, the response contains `<root>/<sub-package>/types/<module>.py` for each target proto — also when
`<module>` starts with underscores (`_internal.proto`, `__private.proto`): `isPrivate` looks at the template's own
base name (`%proto.py.j2`), not at the substituted output. -/
theorem every_target_proto_has_types_module (o : Opts) (nm : Naming) (ps : List ProtoAt) (p : ProtoAt) (hmem : p ∈ ps) :
    getFilename ⟨nm, p.sub, none, some p.module⟩ (parseTemplate typesTemplate) ∈ responseNames o (shapeOf nm ps) templatesDefault ∧
    ∃ dir, getFilename ⟨nm, p.sub, none, some p.module⟩ (parseTemplate typesTemplate) = dir ++ [p.module ++ ".py".toList] := by
  obtain ⟨hin, hon, hparse⟩ := typesTemplate_facts
  constructor
  · rw [(response_names_unique o _ _).2]
    exact mem_renders_of_alwaysOn hin hon (proto_file_under_own_subpackage o nm ps typesTemplate (templateOn_of_alwaysOn o hon)
      (by rw [hparse]; rfl) (by rw [hparse]; rfl) p hmem)
  · rw [hparse, getFilename_append]
    refine ⟨_, congrArg _ ?_⟩
    simp -index only [String.toList_ofList]
    simp [getFilename, segOut, partText, varText]

/-- e.g. `_internal.proto` next to `lib.proto`, and `__private.proto` in a sub-package -/
example :
    let o : Opts := ⟨[['g','r','p','c']], false, false, false⟩
    let nm : Naming := ⟨[['a','c','m','e']], ['l','i','b'], ['v','1'], ['l','i','b','_','v','1']⟩
    let ps : List ProtoAt := [⟨[], "lib".toList, ["library".toList]⟩, ⟨[], "_internal".toList, []⟩, ⟨["admin".toList], "__private".toList, []⟩]
    [["acme".toList, "lib_v1".toList, "types".toList, "_internal.py".toList],
     ["acme".toList, "lib_v1".toList, "admin".toList, "types".toList, "__private.py".toList]].all
      (fun f => (responseNames o (shapeOf nm ps) templatesDefault).contains f) = true ∧
    (responseNames o (shapeOf nm ps) templatesDefault).all (fun f => f.getLast? ≠ some "_base.py".toList) = true := by
  refine ⟨?_, templates_evaluated.no_base_py⟩
  -- the two files come from the types template alone
  have ht : ∀ t ∈ [typesTemplate], t ∈ templatesDefault := by simpa using typesTemplate_facts.1
  unfold typesTemplate at ht
  simp -index only [String.toList_ofList] at ht ⊢
  exact List.all_eq_true.mpr fun f hf => responseNames_contains_mono ht (List.all_eq_true.mp (by decide +kernel) f hf)

end Nested

section ValidNames
open GapicModel.Lemmas.ValidFilename

/-- **`to_valid_filename`, for every text**: the result consists of `a-z 0-9 . $ _ -` only (proved over the regex engine
running the pinned pattern `[^a-z0-9.$_-]+` on the translation of `gapic/utils/filename.py`) -/
theorem valid_filename_charset (s : Str) : ∀ c ∈ Pinned.Funcs.to_valid_filename s, Allowed c := by
  intro c hc
  rw [to_valid_filename_eq] at hc
  rcases subLoop_chars _ [] (PyRt.lower s) (by omega) c hc with rfl | ⟨_, h⟩
  · exact .inr (.inr (.inr (.inr (.inr rfl))))
  · exact (bad_false_iff c).mp h

/-- **`to_valid_module_name`, for every text**: the result consists of `a-z 0-9 . $ _` only; in particular it holds no
`/`, no `-`, no blank and no upper-case letter, whatever the option or package text was -/
theorem valid_module_name_charset (s : Str) : ∀ c ∈ Pinned.Funcs.to_valid_module_name s, Allowed c ∧ c ≠ '-' := by
  intro c hc
  rw [to_valid_module_name_eq, List.mem_map] at hc
  obtain ⟨d, hd, rfl⟩ := hc
  by_cases h : d = '-'
  · subst h
    exact ⟨.inr (.inr (.inr (.inr (.inl rfl)))), by decide⟩
  · simp only [h, if_false]
    exact ⟨valid_filename_charset s d hd, h⟩

/-- a module name never spans two path segments -/
theorem valid_module_name_no_slash (s : Str) : '/' ∉ Pinned.Funcs.to_valid_module_name s :=
  fun h => allowed_ne_slash (valid_module_name_charset s _ h).1 rfl

/-- every directory of `Naming.module_namespace` (the translated property) is one path segment — for every namespace,
inferred or overridden -/
theorem module_namespace_no_slash (segs : List Str) : ∀ s ∈ Pinned.Funcs.naming_module_namespace segs, '/' ∉ s := by
  intro s hs
  unfold Pinned.Funcs.naming_module_namespace at hs
  obtain ⟨x, _, rfl⟩ := List.mem_map.mp hs
  exact valid_module_name_no_slash x

/-- `to_valid_module_name` is idempotent: naming a module twice changes nothing -/
theorem valid_module_name_idempotent (s : Str) :
    Pinned.Funcs.to_valid_module_name (Pinned.Funcs.to_valid_module_name s) = Pinned.Funcs.to_valid_module_name s :=
  to_valid_module_name_fixed _ (valid_module_name_charset s)

/-- the fixed-point hypothesis of `namespace_dirs_are_module_namespace` / `packageDir_is_translated`, discharged by a
decidable character condition: **a namespace whose segments are made of `a-z 0-9 . $ _` has directory path = import
path** (`i.lower()` joined by `_get_filename` vs `to_valid_module_name(i)` joined by the emitted imports) -/
theorem namespace_dirs_are_module_namespace_of_charset (segs : List Str)
    (h : ∀ s ∈ segs, ∀ c ∈ s, Allowed c ∧ c ≠ '-') : Pinned.Funcs.naming_module_namespace segs = segs :=
  namespace_dirs_are_module_namespace segs (fun s hs => to_valid_module_name_fixed s (h s hs))

/-- and the condition is necessary segment by segment: a segment with any other character is NOT a fixed point
(the directory `_get_filename` makes and the module the imports name then differ — e.g. a namespace override
`Foo-Bar`, whose directory is `foo-bar` and whose import is `foo_bar`) -/
theorem namespace_dir_differs_outside_charset (s : Str) (c : Char) (hc : c ∈ s) (h : ¬ (Allowed c ∧ c ≠ '-')) :
    Pinned.Funcs.to_valid_module_name s ≠ s := by
  intro e
  rw [← e] at hc
  exact h (valid_module_name_charset s c hc)

/-- **the package-root directory `<name>_<version>` is one path segment for every name text** — also for a
`python-gapic-name` override that contains `/`, blanks or capitals (the translated `Naming.module_name` /
`NewNaming.versioned_module_name`) — as soon as the version holds no `/` (`inferred_segments_clean`: it is a capture of the
version pattern); with the old naming the segment is `<name>.<version>`, equally slash-free -/
theorem package_root_segment_no_slash (name version : Str) (hv : '/' ∉ version) :
    '/' ∉ Pinned.Funcs.new_naming_versioned_module_name (Pinned.Funcs.naming_module_name name) version ∧
    '/' ∉ Pinned.Funcs.old_naming_versioned_module_name (Pinned.Funcs.naming_module_name name) version := by
  have hn := valid_module_name_no_slash name
  unfold Pinned.Funcs.new_naming_versioned_module_name Pinned.Funcs.old_naming_versioned_module_name
    Pinned.Funcs.naming_module_name
  constructor <;> (cases version <;> simp_all [PyRt.truthy])

/-- a name override with a slash, a blank and capitals, as the generator normalises it -/
example : Pinned.Funcs.new_naming_versioned_module_name (Pinned.Funcs.naming_module_name "My/Lib X".toList) "v1".toList
    = "my_lib_x_v1".toList := by
  simp -index only [String.toList_ofList]
  decide +kernel

/-- non-vacuity and sharpness: ordinary segments satisfy the condition; `-` and `..` show what the charset theorem
does not exclude (a segment can still be `.`/`..`: that is excluded by protoc's identifier grammar, `CleanCtx`) -/
example : (∀ c ∈ "google_cloud1".toList, Allowed c ∧ c ≠ '-') ∧
    Pinned.Funcs.to_valid_module_name "Foo-Bar Baz/Q".toList = "foo_bar_baz_q".toList ∧
    Pinned.Funcs.to_valid_module_name "..".toList = "..".toList := by
  simp -index only [String.toList_ofList, ← bad_false_iff]
  decide +kernel

end ValidNames

end GapicModel.Props.C11
