import GapicModel.Model.Rest
import GapicModel.Pinned.Funcs
import GapicModel.Lemmas.SplitJoin
import GapicModel.Lemmas.Snake
import GapicModel.Lemmas.Tables
import GapicModel.Lemmas.TableForm
/-
C04 — REST calls transcode each request exactly as its google.api.http rule prescribes (DESIGN §7.4).

Everything is relative to a stated specification of `google.api_core.path_template.transcode` (`TranscodeSpec`, met by
the reference `refTranscode`, which T2 compares with the real function), and protobuf's JSON codec is left to the harness.
The closed instances at the end are named `*_counterexample` where the real code still violates a statement on that input,
and `*_regression` (with `fixBody_eq_fixSeg`) where a defect repaired by 151ee10 or 3aedaba stays repaired.
-/
namespace GapicModel.Props.C04
open GapicModel.Model.Http GapicModel.Model.Rest

section Names

theorem splitOn_eq (sep : Char) (s : Str) : splitOn sep s = s.splitOn sep := by
  induction s with
  | nil => rfl
  | cons x xs ih => simp only [splitOn, Split.splitOn_cons, ih]; cases xs.splitOn sep <;> rfl

theorem joinWith_eq (sep : Char) (xs : List Str) : joinWith sep xs = [sep].intercalate xs := by
  induction xs using joinWith.induct <;> simp_all [joinWith]

theorem fixSeg_eq_or (s : Str) : fixSeg s = s ∨ fixSeg s = s ++ ['_'] := by
  unfold fixSeg; split <;> simp

theorem mem_fixSeg {c : Char} {s : Str} (h : c ∈ fixSeg s) : c ∈ s ∨ c = '_' := by
  rcases fixSeg_eq_or s with e | e <;> rw [e] at h
  · exact .inl h
  · simpa using h

theorem jsonAux_snoc_underscore (up : Bool) (s : Str) : jsonAux up (s ++ ['_']) = jsonAux up s := by
  induction s generalizing up with
  | nil => simp [jsonAux]
  | cons c cs ih => simp only [List.cons_append, jsonAux, ih]

theorem json_name_suffix_invariant (s : Str) : toJsonName (s ++ ['_']) = toJsonName s :=
  jsonAux_snoc_underscore false s

theorem fixSeg_json (s : Str) : toJsonName (fixSeg s) = toJsonName s := by
  rcases fixSeg_eq_or s with h | h <;> rw [h]
  exact json_name_suffix_invariant s

theorem lowerSnake_fixSeg (s : Str) (h : LowerSnake s) : LowerSnake (fixSeg s) :=
  fun c hc => (mem_fixSeg hc).elim (h c) .inl

/-- a lower snake_case name holds no capital letter (so `to_snake_case` leaves it alone) and no hyphen (so `[_-]` splits it
at its underscores) -/
theorem lowerSnake_noCap {s : Str} (hs : LowerSnake s) : (∀ c ∈ s, Lemmas.Snake.noCap c) ∧ '-' ∉ s := by
  have key (c : Char) (h : c = '_' ∨ c.isLower = true ∨ c.isDigit = true) : Lemmas.Snake.noCap c ∧ c ≠ '-' := by
    simp only [Char.isLower, Char.isDigit, Lemmas.Snake.noCap, Bool.and_eq_true, decide_eq_true_eq, ge_iff_le, ne_eq,
      Char.ext_iff, UInt32.le_iff_toNat_le, ← UInt32.toNat_inj, Char.toNat_val, Char.reduceVal, UInt32.reduceToNat] at h ⊢
    omega
  exact ⟨fun c hc => (key c (hs c hc)).1, fun h => (key _ (hs _ h)).2 rfl⟩

/-- **the key of a required default is the JSON name**: on lower snake_case names the generator's
`camel_case` filter and protobuf's `ToJsonName` coincide -/
theorem camel_eq_json (s : Str) (hs : LowerSnake s) : camelKey s = toJsonName s := by
  -- the second half is the state of both functions behind an underscore; the induction needs the two together
  suffices h : camelItems (splitOn '_' s) = jsonAux false s ∧ ((splitOn '_' s).map capitalize).flatten = jsonAux true s from h.1
  induction s with
  | nil => simp [splitOn, camelItems, jsonAux, capitalize, lower]
  | cons c cs ih =>
    obtain ⟨ihA, ihB⟩ := ih fun d hd => hs d (List.mem_cons_of_mem _ hd)
    by_cases hc : c = '_'
    · subst hc
      exact ⟨ihB, ihB⟩
    · obtain ⟨h, t, he⟩ := List.exists_cons_of_ne_nil (splitOn_eq '_' cs ▸ List.splitOn_ne_nil '_' cs)
      have hcl : c.toLower = c :=
        dif_neg (show ¬ (c.val ≥ 'A'.val ∧ c.val ≤ 'Z'.val) from (lowerSnake_noCap hs).1 c List.mem_cons_self)
      rw [he] at ihA ihB
      simp only [camelItems, lower] at ihA
      simp [splitOn, hc, he, camelItems, jsonAux, capitalize, lower, hcl, ← ihA]

end Names

section Uri

/-- a segment that already looks like a disambiguated reserved word (`class_`): `fixSeg` is not
injective there (`class` and `class_` collide; protoc rejects such a pair: same JSON name). -/
def Presuffixed (s : Str) : Prop := s.getLast? = some '_' ∧ s.dropLast ∈ reserved

instance (s : Str) : Decidable (Presuffixed s) := by unfold Presuffixed; infer_instance

theorem unfixSeg_fixSeg (s : Str) (h : ¬ Presuffixed s) : unfixSeg (fixSeg s) = s := by
  by_cases hs : s ∈ reserved
  · simp [fixSeg, unfixSeg, hs]
  · rw [fixSeg, if_neg hs, unfixSeg]
    split
    · rename_i hl; exact if_neg fun hd => h ⟨hl, hd⟩
    · rfl

theorem unfixFieldPath_fixFieldPath (p : Str) (h : ∀ seg ∈ splitOn '.' p, ¬ Presuffixed seg) :
    unfixFieldPath (fixFieldPath p) = p := by
  simp only [unfixFieldPath, fixFieldPath, splitOn_eq, joinWith_eq] at h ⊢
  rw [List.splitOn_intercalate '.' _ (by simp), List.map_map, List.map_congr_left (g := id), List.map_id,
    List.intercalate_splitOn]
  · exact fun x hx => unfixSeg_fixSeg x (h x hx)
  · intro x hx
    obtain ⟨y, hy, rfl⟩ := List.mem_map.mp hx
    exact fun hd => (mem_fixSeg hd).elim (Split.of_mem_splitOn '.' hy).1 (by decide)

/-- **`convert_uri_fieldnames` only renames, reversibly**: literal text and sub-templates are
untouched, and stripping the added underscores gives back every variable name — provided no
segment already looks like a disambiguated reserved word. -/
theorem uri_rewrite_invertible (ps : List Piece)
    (h : ∀ v ∈ varPaths ps, ∀ seg ∈ v, ¬ Presuffixed seg) :
    (ps.map fixPiece).map unfixPiece = ps ∧ texts (ps.map fixPiece) = texts ps := by
  induction ps with
  | nil => exact ⟨rfl, rfl⟩
  | cons p r ih =>
    have ⟨h1, h2⟩ := ih fun v hv => h v (by cases p <;> simp [varPaths, hv])
    cases p with
    | text s => simp [fixPiece, unfixPiece, texts, h1, h2]
    | var n t => simp [fixPiece, unfixPiece, texts, h1, h2, unfixFieldPath_fixFieldPath n (h _ (by simp [varPaths]))]

/-! `_VARIABLE_RE.finditer` loses nothing: the pieces concatenate to the input.  Each step of the scanner also says that
it consumed something, which is what the fuel of `scanF` needs. -/

theorem lazyGo_spec {acc ds tm rest : Str} (h : lazyGo acc ds = some (tm, rest)) :
    acc.reverse ++ ds = tm ++ '}' :: rest ∧ rest.length < ds.length := by
  fun_induction lazyGo acc ds with
  | case1 => cases h
  | case2 acc cs => cases h; simp
  | case3 => cases h
  | case4 acc c cs _ _ ih => have := ih h; simp at this ⊢; exact ⟨this.1, by omega⟩

theorem lazyTmpl_spec {cs tm rest : Str} (h : lazyTmpl cs = some (tm, rest)) :
    cs = tm ++ '}' :: rest ∧ rest.length < cs.length := by
  cases cs with
  | nil => cases h
  | cons c cs =>
    rw [lazyTmpl] at h
    split at h
    · cases h
    · have := lazyGo_spec h; simp at this ⊢; exact ⟨this.1, by omega⟩

theorem scanName_spec {acc cs n : Str} {tm : Option Str} {rest : Str} (h : scanName acc cs = some (n, tm, rest)) :
    '{' :: (acc.reverse ++ cs) = render [.var n tm] ++ rest ∧ rest.length < cs.length := by
  fun_induction scanName acc cs with
  | case1 => cases h
  | case2 acc c cs here r hr =>
    cases h
    simp only [here, Option.ite_none_left_eq_some] at hr
    obtain ⟨_, hr⟩ := hr
    by_cases hc : c = '='
    · rw [if_pos hc] at hr
      obtain ⟨⟨tm', rest'⟩, hl, hr⟩ := Option.map_eq_some_iff.mp hr
      cases hr
      have := lazyTmpl_spec hl
      simp [render, hc, this.1]; omega
    · simp only [if_neg hc, Option.ite_none_right_eq_some] at hr
      obtain ⟨hb, hr⟩ := hr
      cases hr; simp [render, hb]
  | case3 => cases h
  | case4 acc c cs here _ _ ih => have := ih h; simp at this ⊢; exact ⟨this.1, by omega⟩

theorem render_flush (lit : Str) (ps : List Piece) : render (flush lit ps) = lit.reverse ++ render ps := by
  unfold flush
  split
  · rename_i h; simp [h]
  · simp [render]

theorem render_append (a b : List Piece) : render (a ++ b) = render a ++ render b := by
  induction a with
  | nil => rfl
  | cons p r ih => rcases p with _ | ⟨_, _ | _⟩ <;> simp [render, ih]

theorem render_scanF (f : Nat) (lit s : Str) (hf : s.length < f) :
    render (scanF f lit s) = lit.reverse ++ s := by
  fun_induction scanF f lit s with
  | case1 => omega
  | case2 => simp [render_flush, render]
  | case3 f lit cs n tm rest hsn ih =>
    have := scanName_spec hsn
    rw [render_flush, ← List.singleton_append, render_append, ih (by simp at hf; omega)]
    simp at this ⊢; rw [this.1]
  | case4 f lit cs _ ih => rw [ih (by simp at hf; omega)]; simp
  | case5 f lit c cs _ ih => rw [ih (by simp at hf; omega)]; simp

theorem render_scan (s : Str) : render (scan s) = s := by
  rw [scan, render_scanF _ _ _ (Nat.lt_succ_self _)]; rfl

/-- string level: un-fixing the rewritten template gives the original text back -/
theorem convertUri_invertible (uri : Str)
    (h : ∀ v ∈ varPaths (scan uri), ∀ seg ∈ v, ¬ Presuffixed seg) :
    render (((scan uri).map fixPiece).map unfixPiece) = uri := by
  rw [(uri_rewrite_invertible (scan uri) h).1, render_scan]

end Uri

/-- binding `b` applied to request `msg` gives `t` -/
def Selects (b : HttpRule) (msg : Msg) (t : Transcoded) : Prop :=
  t.method = b.method ∧ t.uri = expandP msg (scan b.uri) ∧
  (∀ v ∈ varPaths (scan b.uri), (getLeaf msg v).isSome = true) ∧
  match b.body with
  | none => t.body = none ∧ t.query = leftovers (varPaths (scan b.uri)) msg
  | some bd =>
    if bd = ['*'] then t.body = some (leftovers (varPaths (scan b.uri)) msg) ∧ t.query = []
    else t.body = some (subtree bd (leftovers (varPaths (scan b.uri)) msg)) ∧
         t.query = deleteField (leftovers (varPaths (scan b.uri)) msg) [bd]

/-- what the emitted code relies on: a successful transcode is one of the given bindings, all of
whose path variables are set, the path expanded from them, and the remainder split as `body` says -/
def TranscodeSpec (tr : Transcode) : Prop :=
  ∀ opts msg t, tr opts msg = some t → ∃ b ∈ opts, Selects b msg t

theorem selects_of_tryBinding {fields : List Str} {b : HttpRule} {msg : Msg} {t : Transcoded}
    (h : tryBinding fields b msg = some t) : Selects b msg t := by
  unfold tryBinding at h
  simp only [Option.ite_none_left_eq_some, Bool.or_eq_true, Bool.not_eq_true', not_or, Bool.not_eq_false,
    List.all_eq_true] at h
  obtain ⟨⟨_, hall⟩, h⟩ := h
  unfold Selects
  cases hbody : b.body with
  | none => rw [hbody] at h; cases h; exact ⟨rfl, rfl, hall, rfl, rfl⟩
  | some bd =>
    rw [hbody] at h
    by_cases hs : bd = ['*']
    · simp only [hs, if_true] at h; cases h; exact ⟨rfl, rfl, hall, by simp [hs]⟩
    · simp only [hs, if_false, Option.ite_none_right_eq_some] at h
      obtain ⟨_, h⟩ := h
      cases h; exact ⟨rfl, rfl, hall, by simp [hs]⟩

theorem transcode_spec_refines (fields : List Str) : TranscodeSpec (refTranscode fields) := by
  intro opts msg t h
  obtain ⟨b, hb, ht⟩ := List.exists_of_findSome?_eq_some h
  exact ⟨b, hb, selects_of_tryBinding ht⟩

/-- the body as request leaves again (a named body field is re-rooted under its name) -/
def reroot (b : HttpRule) (ls : Msg) : Msg :=
  match b.body with
  | none => ls
  | some bd => if bd = ['*'] then ls else ls.map (fun l => { l with path := bd :: l.path })

theorem reroot_subtree (bd : Str) (ls : Msg) :
    (subtree bd ls).map (fun l => { l with path := bd :: l.path }) = ls.filter (covers [bd]) := by
  rw [subtree, List.map_map]
  refine (List.map_congr_left fun l hl => ?_).trans (List.map_id _)
  have hc := (List.mem_filter.mp hl).2
  rcases l with ⟨_ | ⟨x, xs⟩, atoms⟩ <;> simp [covers, List.isPrefixOf] at hc
  simp [hc]

/-- **path ⊎ body ⊎ query = request** (as multisets of set leaf fields) for any binding application -/
theorem selects_partition (b : HttpRule) (msg : Msg) (t : Transcoded) (h : Selects b msg t) :
    (pathLeaves (varPaths (scan b.uri)) msg ++ reroot b (t.body.getD []) ++ t.query).Perm msg := by
  obtain ⟨_, _, _, hb⟩ := h
  rw [List.append_assoc]
  refine (List.Perm.append_left _ ?_).trans
    (List.filter_append_perm (fun l => (varPaths (scan b.uri)).any (covers · l)) msg)
  unfold reroot
  split at hb
  · simp [hb.1, hb.2, leftovers]
  · split at hb
    · rename_i hstar
      simp [hb.1, hb.2, hstar, leftovers]
    · rename_i hstar
      simp only [hb.1, hb.2, Option.getD_some, hstar, if_false, reroot_subtree]
      exact List.filter_append_perm (covers [_]) _

/-- the query dict of a successful call, in terms of the transcoder's answer -/
def queryOf (m : MethodD) (numeric : Bool) (t : Transcoded) : List JLeaf :=
  t.query.map (jsonLeaf numeric) ++ addedDefaults m (t.query.map (jsonLeaf numeric)) ++
    (if numeric then [altLeaf] else [])

theorem restCall_ok (tr : Transcode) (m : MethodD) (numeric : Bool) (req : Msg) (w : Wire)
    (h : restCall tr m numeric req = .ok w) :
    restAvailable m = true ∧ ∃ t, tr (httpOptions m) (rtMsg req) = some t ∧
      w.verb = t.method ∧ w.uri = t.uri ∧ w.query = queryOf m numeric t ∧
      w.body = if ((httpOptions m).head?.bind (·.body)).isSome then t.body.map (List.map (jsonLeaf numeric)) else none := by
  rw [restCall] at h
  cases hav : restAvailable m
  · simp [hav] at h
  · simp only [hav, Bool.not_true, Bool.false_eq_true, if_false] at h
    refine ⟨rfl, ?_⟩
    cases ht : tr (httpOptions m) (rtMsg req) with
    | none => simp [ht] at h
    | some t =>
      refine ⟨t, rfl, ?_⟩
      simp only [ht] at h
      split at h <;> cases h <;> simp [queryOf, *]

/-- **request fields are partitioned**: a successful call uses ONE declared binding; the set leaf
fields of the request (as the emitted class names them) are split into path ⊎ body ⊎ query with
nothing lost and nothing twice; the query string carries exactly the query part (lowerCamel names,
enums per the option) plus the unset-required defaults plus `$alt` when numeric; a body that is sent is
the body part.  (Whether the body part IS sent is decided elsewhere: `body_carried`, `body_lost_counterexample`.) -/
theorem partition (tr : Transcode) (htr : TranscodeSpec tr) (m : MethodD) (numeric : Bool) (req : Msg) (w : Wire)
    (h : restCall tr m numeric req = .ok w) :
    ∃ b ∈ httpOptions m, ∃ t, Selects b (rtMsg req) t ∧
      (pathLeaves (varPaths (scan b.uri)) (rtMsg req) ++ reroot b (t.body.getD []) ++ t.query).Perm (rtMsg req) ∧
      w.query = queryOf m numeric t ∧
      (∀ bj, w.body = some bj → ∃ tb, t.body = some tb ∧ bj = tb.map (jsonLeaf numeric)) := by
  obtain ⟨_, t, ht, _, _, hq, hb⟩ := restCall_ok tr m numeric req w h
  obtain ⟨b, hbm, hsel⟩ := htr _ _ _ ht
  refine ⟨b, hbm, t, hsel, selects_partition b _ t hsel, hq, fun bj hbj => ?_⟩
  rw [hb] at hbj
  split at hbj
  · exact (Option.map_eq_some_iff.mp hbj).imp fun tb h => ⟨h.1, h.2.symm⟩
  · cases hbj

/-- **the body travels when the selected binding and the primary binding agree on having one**
(the emitted `__call__` decides at generation time, from the primary binding, whether to send a body) -/
theorem body_carried (tr : Transcode) (m : MethodD) (numeric : Bool) (req : Msg) (w : Wire)
    (h : restCall tr m numeric req = .ok w) (t : Transcoded) (ht : tr (httpOptions m) (rtMsg req) = some t)
    (hagree : ((httpOptions m).head?.bind (·.body)).isSome = t.body.isSome) :
    w.body = t.body.map (fun b => b.map (jsonLeaf numeric)) := by
  obtain ⟨_, t', ht', _, _, _, hb⟩ := restCall_ok tr m numeric req w h
  cases ht.symm.trans ht'
  rw [hb, hagree]
  cases t.body <;> rfl

theorem parseHttpRule_eq_none (r : RulePb) :
    parseHttpRule r = none ↔ r.pattern = none ∨ r.pattern = some ['c', 'u', 's', 't', 'o', 'm'] ∨ r.uri = [] := by
  unfold parseHttpRule
  cases r.pattern with
  | none => simp
  | some p => by_cases hc : p = ['c', 'u', 's', 't', 'o', 'm'] <;> by_cases hu : r.uri = [] <;> simp [hc, hu]

theorem parseHttpRule_eq_some {r : RulePb} {b : HttpRule} (h : parseHttpRule r = some b) :
    r.pattern = some b.method ∧ b.uri = convertUri r.uri := by
  unfold parseHttpRule at h
  split at h
  · cases h
  · rename_i p hp
    split at h
    · cases h
    · split at h <;> cases h
      exact ⟨hp, rfl⟩

/-- **the verb and the path instantiate a declared binding**: some rule `r` among the method's
`http` annotation and its additional bindings parses to the binding used; the verb is `r`'s pattern,
the template is `r`'s text with reserved names rewritten, every variable of it is set in the request
and the path is the template with each variable replaced by that field. -/
theorem binding_selected_is_declared (tr : Transcode) (htr : TranscodeSpec tr) (m : MethodD) (numeric : Bool)
    (req : Msg) (w : Wire) (h : restCall tr m numeric req = .ok w) :
    ∃ r ∈ m.http :: m.additional, ∃ b, parseHttpRule r = some b ∧
      r.pattern = some w.verb ∧ b.uri = convertUri r.uri ∧
      w.uri = expandP (rtMsg req) (scan b.uri) ∧
      ∀ v ∈ varPaths (scan b.uri), (getLeaf (rtMsg req) v).isSome = true := by
  obtain ⟨_, t, ht, hv, hu, _, _⟩ := restCall_ok tr m numeric req w h
  obtain ⟨b, hbm, hm, huri, hvars, _⟩ := htr _ _ _ ht
  obtain ⟨r, hr, hp⟩ := List.mem_filterMap.mp hbm
  obtain ⟨h1, h2⟩ := parseHttpRule_eq_some hp
  exact ⟨r, hr, b, hp, by rw [h1, hv, hm], h2, by rw [hu, huri], hvars⟩

/-- source fields of the defaults a call adds -/
def addedFields (m : MethodD) (q : List JLeaf) : List Str :=
  ((m.fields.filter (fun f => f.required && (queryParams m).contains (fixSeg f.name))).filter
    (fun f => !(topKeys q).contains (camelKey (fixSeg f.name)))).map (fun f => fixSeg f.name)

theorem addedDefaults_eq (m : MethodD) (q : List JLeaf) :
    addedDefaults m q = ((m.fields.filter (fun f => f.required && (queryParams m).contains (fixSeg f.name))).filter
      (fun f => !(topKeys q).contains (camelKey (fixSeg f.name)))).map
        (fun f => ⟨[camelKey (fixSeg f.name)], (defaultText f.kind).toList⟩) := by
  unfold addedDefaults requiredDefaults
  rw [List.filter_map, List.map_map]
  rfl

/-- the fields a call adds a default for (`addedFields` lists their names, `addedDefaults_eq` their JSON members): required,
left to the query by the generator's table, and not among the top-level keys the request itself puts there -/
theorem mem_defaulted {m : MethodD} {q : List JLeaf} {f : FieldD} :
    f ∈ (m.fields.filter (fun f => f.required && (queryParams m).contains (fixSeg f.name))).filter
        (fun f => !(topKeys q).contains (camelKey (fixSeg f.name))) ↔
      (f ∈ m.fields ∧ f.required = true ∧ fixSeg f.name ∈ queryParams m) ∧ camelKey (fixSeg f.name) ∉ topKeys q := by
  rw [List.mem_filter, List.mem_filter]; simp

/-- every required field the generator left to the query string is in the query under the key `camel_case` makes of its
name, whatever the name is: set by the caller, or with the rendered default of its kind -/
theorem required_default_keyed (tr : Transcode) (m : MethodD) (numeric : Bool) (req : Msg) (w : Wire)
    (h : restCall tr m numeric req = .ok w) (f : FieldD) (hf : f ∈ m.fields) (hreq : f.required = true)
    (hq : fixSeg f.name ∈ queryParams m) :
    ∃ l ∈ w.query, l.path.head? = some (camelKey (fixSeg f.name)) ∧
      (l = ⟨[camelKey (fixSeg f.name)], (defaultText f.kind).toList⟩ ∨
       ∃ t, tr (httpOptions m) (rtMsg req) = some t ∧ l ∈ t.query.map (jsonLeaf numeric)) := by
  obtain ⟨_, t, ht, _, _, hwq, _⟩ := restCall_ok tr m numeric req w h
  rw [hwq, queryOf]
  by_cases htop : camelKey (fixSeg f.name) ∈ topKeys (t.query.map (jsonLeaf numeric))
  · obtain ⟨l, hl, hh⟩ := List.mem_filterMap.mp htop
    exact ⟨l, List.mem_append_left _ (List.mem_append_left _ hl), hh, .inr ⟨t, ht, hl⟩⟩
  · rw [addedDefaults_eq]
    exact ⟨_, List.mem_append_left _ (List.mem_append_right _
      (List.mem_map_of_mem (mem_defaulted.mpr ⟨⟨hf, hreq, hq⟩, htop⟩))), rfl, .inl rfl⟩

/-- **every required field the generator left to the query string is in the query**, under its JSON
name, whether or not the caller set it — with the rendered default of its kind when unset -/
theorem required_default_present (tr : Transcode) (m : MethodD) (numeric : Bool) (req : Msg) (w : Wire)
    (h : restCall tr m numeric req = .ok w) (f : FieldD) (hf : f ∈ m.fields) (hreq : f.required = true)
    (hq : fixSeg f.name ∈ queryParams m) (hs : LowerSnake f.name) :
    ∃ l ∈ w.query, l.path.head? = some (toJsonName f.name) ∧
      (l = ⟨[toJsonName f.name], (defaultText f.kind).toList⟩ ∨
       ∃ t, tr (httpOptions m) (rtMsg req) = some t ∧ l ∈ t.query.map (jsonLeaf numeric)) := by
  have := required_default_keyed tr m numeric req w h f hf hreq hq
  rwa [camel_eq_json _ (lowerSnake_fixSeg _ hs), fixSeg_json] at this

/-! ### the presence kind of a field is irrelevant to the defaults table

`Field.oneof` is set for proto3 `optional` fields (synthetic oneof) and for members of a real oneof; the template's loop
`for req_field in method.input.required_fields if req_field.name in method.query_params` does not look at it. -/

theorem queryParams_withPresence (m : MethodD) (g : FieldD → Presence) :
    queryParams (m.withPresence g) = queryParams m := by
  unfold queryParams httpOpt rtNames MethodD.withPresence
  simp only [List.map_map, Function.comp_def]

/-- **the table is `required ∧ left to the query`, whatever the presence kinds are** -/
theorem requiredDefaults_presence_irrelevant (m : MethodD) (g : FieldD → Presence) :
    requiredDefaults (m.withPresence g) = requiredDefaults m := by
  unfold requiredDefaults
  rw [queryParams_withPresence]
  unfold MethodD.withPresence
  simp only [List.filter_map, List.map_map, Function.comp_def]

/-- hence a call sends the same request whatever the presence kinds are (given the same transcoder result) -/
theorem addedDefaults_presence_irrelevant (m : MethodD) (g : FieldD → Presence) (q : List JLeaf) :
    addedDefaults (m.withPresence g) q = addedDefaults m q := by
  unfold addedDefaults
  rw [requiredDefaults_presence_irrelevant]

/-- `required_default_present` for a required proto3-`optional` field or a required member of a real oneof: spelled out,
it is the general theorem (which never mentions presence) -/
theorem required_default_present_with_presence (tr : Transcode) (m : MethodD) (numeric : Bool) (req : Msg) (w : Wire)
    (h : restCall tr m numeric req = .ok w) (f : FieldD) (hf : f ∈ m.fields) (hreq : f.required = true)
    (_hp : f.presence = .optional ∨ f.presence = .oneofMember)
    (hq : fixSeg f.name ∈ queryParams m) (hs : LowerSnake f.name) :
    ∃ l ∈ w.query, l.path.head? = some (toJsonName f.name) ∧
      (l = ⟨[toJsonName f.name], (defaultText f.kind).toList⟩ ∨
       ∃ t, tr (httpOptions m) (rtMsg req) = some t ∧ l ∈ t.query.map (jsonLeaf numeric)) :=
  required_default_present tr m numeric req w h f hf hreq hq hs

/-! ### when is a default only added for a field the selected binding leaves unbound?

`Unbound` and `Agree` are defined in `Model/Rest.lean` (the driver evaluates them on every generated call). -/

/-- **no required default duplicates a bound field** when the generator's table agrees with the
binding used: every default the call adds belongs to a required field that binding leaves unbound. -/
theorem no_duplication (m : MethodD) (b : HttpRule) (hag : Agree m b) (q : List JLeaf) :
    ∀ n ∈ addedFields m q, Unbound b n := by
  intro n hn
  obtain ⟨f, hf, rfl⟩ := List.mem_map.mp hn
  obtain ⟨⟨hfm, _, hfq⟩, _⟩ := mem_defaulted.mp hf
  exact (hag _ (List.mem_map_of_mem hfm)).mp hfq

/-- … and conversely every required field that binding leaves unbound is in the generator's table
(so `required_default_present` applies to it) -/
theorem unbound_required_in_table (m : MethodD) (b : HttpRule) (hag : Agree m b) (f : FieldD) (hf : f ∈ m.fields)
    (hu : Unbound b (fixSeg f.name)) : fixSeg f.name ∈ queryParams m :=
  (hag _ (List.mem_map.mpr ⟨f, hf, rfl⟩)).mpr hu

theorem mem_queryParams {m : MethodD} {url : Str} {body : Option Str} (ho : httpOpt m = some (url, body)) (n : Str) :
    n ∈ queryParams m ↔ body ≠ some ['*'] ∧ n ∈ rtNames m ∧ n ∉ (pathParams url).map fixSeg ∧ body ≠ some n := by
  rw [queryParams, ho]
  by_cases hstar : body = some ['*'] <;> simp [hstar]

/-- **the table is right about the primary binding** as long as (i) the two readings of the
template agree on its top-level variables (`path_params`' `\{(\w+)…\}` on the raw text, names then
disambiguated, vs `_VARIABLE_RE` on the rewritten text — true for well-formed templates, reserved
names included since 151ee10, see the examples and `reserved_path_field_regression`) and (ii) the
body name needed no rewriting. -/
theorem agree_primary (m : MethodD) (b : HttpRule) (p : Str)
    (hp : m.http.pattern = some p) (hc : p ≠ ['c', 'u', 's', 't', 'o', 'm'])
    (hb : b.body = if m.http.body = [] then none else some m.http.body)
    (hvars : ∀ n ∈ rtNames m, [n] ∈ varPaths (scan b.uri) ↔ n ∈ (pathParams m.http.uri).map fixSeg) :
    Agree m b := by
  intro n hn
  have ho : httpOpt m = some (m.http.uri, b.body) := by simp only [httpOpt, hp, hc, if_false, hb]
  rw [mem_queryParams ho, Unbound, hvars n hn]
  exact ⟨fun h => ⟨h.2.2.1, h.2.2.2, h.1⟩, fun h => ⟨h.2.2, hn, h.1, h.2.1⟩⟩

/-- **a default is added exactly for the required fields that the binding in use leaves unbound and the
caller left unset** — when the generator's table agrees with that binding (field names distinct) -/
theorem added_iff_unbound_unset (m : MethodD) (b : HttpRule) (hag : Agree m b) (q : List JLeaf) (f : FieldD)
    (hf : f ∈ m.fields) (hreq : f.required = true)
    (huniq : ∀ g ∈ m.fields, fixSeg g.name = fixSeg f.name → g = f) :
    fixSeg f.name ∈ addedFields m q ↔
      (Unbound b (fixSeg f.name) ∧ camelKey (fixSeg f.name) ∉ topKeys q) := by
  constructor
  · intro hn
    refine ⟨no_duplication m b hag q _ hn, ?_⟩
    obtain ⟨g, hg, hge⟩ := List.mem_map.mp hn
    obtain ⟨⟨hgm, _⟩, hgk⟩ := mem_defaulted.mp hg
    cases huniq g hgm hge
    exact hgk
  · rintro ⟨hu, hk⟩
    exact List.mem_map.mpr ⟨f, mem_defaulted.mpr ⟨⟨hf, hreq, unbound_required_in_table m b hag f hf hu⟩, hk⟩, rfl⟩

/-- **the reference transcoder uses the FIRST declared binding that applies** (transcode order =
declaration order: the `http` rule, then its additional bindings) -/
theorem transcode_first_match (fields : List Str) (opts : List HttpRule) (msg : Msg) (t : Transcoded)
    (h : refTranscode fields opts msg = some t) :
    ∃ pre b post, opts = pre ++ b :: post ∧ tryBinding fields b msg = some t ∧
      ∀ b' ∈ pre, tryBinding fields b' msg = none :=
  List.findSome?_eq_some_iff.mp h

/-- a reply is parsed iff its status is below 400; otherwise the call raises -/
theorem reply_parsed_iff (status : Nat) : replyOutcome status = .parsed ↔ status < 400 := by
  unfold replyOutcome
  split <;> simp <;> omega

/-- **`$alt=json;enum-encoding=int` is sent iff numeric enums are requested** (no request field or
required field being itself called `$alt`) -/
theorem numeric_enum_switch (tr : Transcode) (htr : TranscodeSpec tr) (m : MethodD) (numeric : Bool) (req : Msg) (w : Wire)
    (h : restCall tr m numeric req = .ok w)
    (hreq : ∀ l ∈ req, l.path.map (fun s => toJsonName (fixSeg s)) ≠ [['$', 'a', 'l', 't']])
    (hfld : ∀ f ∈ m.fields, camelKey (fixSeg f.name) ≠ ['$', 'a', 'l', 't']) :
    altLeaf ∈ w.query ↔ numeric = true := by
  obtain ⟨_, t, ht, _, _, hq, _⟩ := restCall_ok tr m numeric req w h
  obtain ⟨b, _, hsel⟩ := htr _ _ _ ht
  rw [hq, queryOf]
  refine ⟨fun hm => ?_, fun hn => by simp [hn]⟩
  rcases List.mem_append.mp hm with hm | hm
  · exfalso
    rcases List.mem_append.mp hm with hm | hm
    · obtain ⟨l, hl, he⟩ := List.mem_map.mp hm
      obtain ⟨l0, hl0, rfl⟩ := List.mem_map.mp ((selects_partition b _ t hsel).subset (List.mem_append_right _ hl))
      exact hreq l0 hl0 (by simpa [jsonLeaf, rtLeaf, altLeaf, List.map_map] using congrArg JLeaf.path he)
    · rw [addedDefaults_eq] at hm
      obtain ⟨f, hf, he⟩ := List.mem_map.mp hm
      exact hfld f (mem_defaulted.mp hf).1.1 (by simpa [altLeaf] using congrArg JLeaf.path he)
  · split at hm
    · assumption
    · cases hm

/-- `NotImplementedError` exactly for methods without binding and client-streaming methods -/
theorem refuses_iff (tr : Transcode) (m : MethodD) (numeric : Bool) (req : Msg) :
    restCall tr m numeric req = .error .notImplemented ↔ (httpOptions m = [] ∨ m.clientStreaming = true) := by
  have hav : restAvailable m = false ↔ (httpOptions m = [] ∨ m.clientStreaming = true) := by
    simp [restAvailable, Decidable.or_iff_not_imp_left]
  rw [← hav, restCall]
  cases restAvailable m
  · simp
  · simp only [Bool.not_true, Bool.false_eq_true, if_false, reduceCtorEq, iff_false]
    split
    · simp
    · split <;> simp

/-- **a method without a usable binding refuses the REST transport** -/
theorem no_binding_refuses (tr : Transcode) (m : MethodD) (numeric : Bool) (req : Msg)
    (h : httpOptions m = []) : restCall tr m numeric req = .error .notImplemented :=
  (refuses_iff tr m numeric req).mpr (.inl h)

/-- which annotations give no binding: every rule is absent, `custom`, or has an empty path -/
theorem no_binding_iff (m : MethodD) :
    httpOptions m = [] ↔ ∀ r ∈ m.http :: m.additional,
      r.pattern = none ∨ r.pattern = some ['c', 'u', 's', 't', 'o', 'm'] ∨ r.uri = [] := by
  simp only [httpOptions, List.filterMap_eq_nil_iff, parseHttpRule_eq_none]

/-- `§"abc"` is the explicit character list `['a', 'b', 'c']` (no `String.toList` for the kernel to evaluate) -/
local macro "§" s:str : term => do
  let elems := s.getString.toList.toArray.map fun c => Lean.Syntax.mkCharLit c
  `([$elems,*])

/-! ## Concrete instances: non-vacuity, regression inputs of the repaired defects, and the inputs on which
the real code still violates the statement

Closed evaluations by the kernel; those that reach `fixSeg` first put the reserved words into character form (`table_form`). -/
section Examples

deriving instance DecidableEq for Except

instance : Decidable (LowerSnake s) := by unfold LowerSnake; infer_instance

attribute [local table_form] restCall restAvailable httpOptions parseHttpRule convertUri fixPiece fixFieldPath fixBody fixSeg
  rtMsg rtLeaf rtNames addedDefaults requiredDefaults requiredDefaultsSkippingOneof queryParams Agree addedFields Presuffixed
  reserved Tables.reserved_eq

/-- the standard Update shape: nested path variable, named body, required scalar left to the query -/
def mUpdate : MethodD :=
  { http := ⟨some (§"patch"), §"/v1/{book.name=shelves/*/books/*}", §"book"⟩, additional := [],
    fields := [⟨§"book", .msg, false, true, .implicit⟩, ⟨§"update_mask", .msg, false, false, .implicit⟩, ⟨§"force", .bool, false, true, .implicit⟩,
               ⟨§"kind", .enum, false, false, .implicit⟩],
    clientStreaming := false }

def reqUpdate : Msg :=
  [⟨[§"book", §"name"], [.plain (§"shelves/s/books/b")]⟩, ⟨[§"book", §"title"], [.plain (§"T")]⟩,
   ⟨[§"book", §"genre"], [.enum (§"POETRY") (§"2")]⟩, ⟨[§"update_mask"], [.plain (§"title")]⟩,
   ⟨[§"kind"], [.enum (§"FICTION") (§"1")]⟩]

example : restCall (refTranscode (rtNames mUpdate)) mUpdate true reqUpdate =
    .ok ⟨§"patch", §"/v1/shelves/s/books/b",
         some [⟨[§"title"], [§"T"]⟩, ⟨[§"genre"], [§"2"]⟩],
         [⟨[§"updateMask"], [§"title"]⟩, ⟨[§"kind"], [§"1"]⟩, ⟨[§"force"], [§"false"]⟩, altLeaf]⟩ := by
  simp +unfoldPartialApp only [table_form]
  decide +kernel

example : restCall (refTranscode (rtNames mUpdate)) mUpdate false reqUpdate =
    .ok ⟨§"patch", §"/v1/shelves/s/books/b",
         some [⟨[§"title"], [§"T"]⟩, ⟨[§"genre"], [§"POETRY"]⟩],
         [⟨[§"updateMask"], [§"title"]⟩, ⟨[§"kind"], [§"FICTION"]⟩, ⟨[§"force"], [§"false"]⟩]⟩ := by
  simp +unfoldPartialApp only [table_form]
  decide +kernel

/-- hypotheses of `agree_primary`, `numeric_enum_switch`, `required_default_present`, `uri_rewrite_invertible` are met -/
example : Agree mUpdate ⟨§"patch", §"/v1/{book.name=shelves/*/books/*}", some (§"book")⟩ := by
  simp +unfoldPartialApp only [table_form]
  decide +kernel
example : ∀ n ∈ rtNames mUpdate, [n] ∈ varPaths (scan (§"/v1/{book.name=shelves/*/books/*}")) ↔
    n ∈ (pathParams mUpdate.http.uri).map fixSeg := by
  simp +unfoldPartialApp only [table_form]
  decide +kernel
example : ∀ l ∈ reqUpdate, l.path.map (fun s => toJsonName (fixSeg s)) ≠ [§"$alt"] := by
  simp +unfoldPartialApp only [table_form]
  decide +kernel
example : ∀ f ∈ mUpdate.fields, camelKey (fixSeg f.name) ≠ (§"$alt") := by
  simp +unfoldPartialApp only [table_form]
  decide +kernel
example : (§"force") ∈ queryParams mUpdate ∧ LowerSnake (§"force") ∧ LowerSnake (§"update_mask") := by
  simp +unfoldPartialApp only [table_form]
  decide +kernel
example : ∀ v ∈ varPaths (scan (§"/v1/{class=classes/*}/x/{book.import}")), ∀ seg ∈ v, ¬ Presuffixed seg := by
  simp +unfoldPartialApp only [table_form]
  decide +kernel
example : convertUri (§"/v1/{class=classes/*}/x/{book.import}:get") = (§"/v1/{class_=classes/*}/x/{book.import_}:get") := by
  simp +unfoldPartialApp only [table_form]
  decide +kernel

/-- hypothesis of `body_carried` on the same call -/
example : ((httpOptions mUpdate).head?.bind (·.body)).isSome =
    ((refTranscode (rtNames mUpdate) (httpOptions mUpdate) (rtMsg reqUpdate)).bind (·.body)).isSome := by
  simp +unfoldPartialApp only [table_form]
  decide +kernel

/-- the point `Presuffixed` excludes: `class` and `class_` are rewritten to the same name (protoc rejects a
message with both: equal JSON names, so this lies outside every valid input) -/
example : fixSeg (§"class") = fixSeg (§"class_") ∧ Presuffixed (§"class_") := by
  simp +unfoldPartialApp only [table_form]
  decide +kernel

/-- `transcode_first_match`: both bindings apply to this request, the first is used -/
example : refTranscode [§"name", §"alt"]
    [⟨§"get", §"/v1/{name=archives/*}", none⟩, ⟨§"get", §"/v1/archives/{alt}", none⟩]
    [⟨[§"name"], [.plain (§"archives/1")]⟩, ⟨[§"alt"], [.plain (§"7")]⟩] =
    some ⟨§"get", §"/v1/archives/1", none, [⟨[§"alt"], [.plain (§"7")]⟩]⟩ := by decide +kernel

example : replyOutcome 399 = .parsed ∧ replyOutcome 400 = .httpError 400 := by decide

/-- a method without annotation, one with only a `custom` pattern: no binding -/
example : httpOptions ⟨⟨none, [], []⟩, [], [], false⟩ = [] := by decide +kernel
example : httpOptions ⟨⟨some (§"custom"), §"/v1/x", []⟩, [], [], false⟩ = [] := by decide +kernel

/-! ### required fields with presence (proto3 `optional`, member of a real oneof) left to the query -/

def mListItems : MethodD :=
  { http := ⟨some (§"get"), §"/v1/{parent=shelves/*}/items", []⟩, additional := [],
    fields := [⟨§"parent", .str, false, true, .implicit⟩, ⟨§"depth", .int, false, true, .implicit⟩,
               ⟨§"page_size", .int, false, true, .optional⟩, ⟨§"show_deleted", .bool, false, true, .optional⟩,
               ⟨§"pick_s", .str, false, true, .oneofMember⟩, ⟨§"pick_n", .int, false, true, .oneofMember⟩,
               ⟨§"filter", .str, false, false, .implicit⟩],
    clientStreaming := false }

/-- `GET /v1/shelves/1/items?depth=0&pageSize=0&showDeleted=false&pickS=&pickN=0` (what the generated client sends): every unset
required field left to the query gets its default, the `optional` ones and the oneof members included -/
theorem required_presence_defaults_regression :
    restCall (refTranscode (rtNames mListItems)) mListItems false [⟨[§"parent"], [.plain (§"shelves/1")]⟩] =
      .ok ⟨§"get", §"/v1/shelves/1/items", none,
           [⟨[§"depth"], [§"0"]⟩, ⟨[§"pageSize"], [§"0"]⟩, ⟨[§"showDeleted"], [§"false"]⟩, ⟨[§"pickS"], [[]]⟩, ⟨[§"pickN"], [§"0"]⟩]⟩ ∧
    Agree mListItems ⟨§"get", §"/v1/{parent=shelves/*}/items", none⟩ := by
  simp +unfoldPartialApp only [table_form]
  decide +kernel

/-- an explicitly set member (even default-valued: it has presence, so it is serialised) travels as set; only the
unset ones are defaulted -/
theorem required_presence_set_regression :
    restCall (refTranscode (rtNames mListItems)) mListItems false
        [⟨[§"parent"], [.plain (§"shelves/1")]⟩, ⟨[§"page_size"], [.plain (§"0")]⟩, ⟨[§"pick_s"], [.plain (§"x")]⟩] =
      .ok ⟨§"get", §"/v1/shelves/1/items", none,
           [⟨[§"pageSize"], [§"0"]⟩, ⟨[§"pickS"], [§"x"]⟩, ⟨[§"depth"], [§"0"]⟩, ⟨[§"showDeleted"], [§"false"]⟩, ⟨[§"pickN"], [§"0"]⟩]⟩ := by
  simp +unfoldPartialApp only [table_form]
  decide +kernel

/-- a table that skips fields with `Field.oneof` set (seed10_C04) loses the defaults the statement demands:
`required_default_present` is false of it -/
theorem required_defaults_skipping_oneof_counterexample :
    (§"pageSize", some (§"0")) ∈ requiredDefaults mListItems ∧
    (§"pageSize", some (§"0")) ∉ requiredDefaultsSkippingOneof mListItems ∧
    requiredDefaultsSkippingOneof mListItems = [(§"depth", some (§"0"))] := by
  simp +unfoldPartialApp only [table_form]
  decide +kernel

/-! ### §9-F11 (OPEN): a required field bound only by an ADDITIONAL binding -/

def mArchive : MethodD :=
  { http := ⟨some (§"get"), §"/v1/{name=archives/*}", []⟩,
    additional := [⟨some (§"get"), §"/v1/archives/{alt}", []⟩],
    fields := [⟨§"name", .str, false, true, .implicit⟩, ⟨§"alt", .str, false, true, .implicit⟩, ⟨§"view", .str, false, false, .implicit⟩],
    clientStreaming := false }

/-- the second binding is used, `alt` travels in the path — and, default-valued, in the query:
`GET /v1/archives/7?alt=`; the generator's table is wrong about that binding -/
theorem additional_binding_counterexample :
    restCall (refTranscode (rtNames mArchive)) mArchive false [⟨[§"alt"], [.plain (§"7")]⟩] =
      .ok ⟨§"get", §"/v1/archives/7", none, [⟨[§"alt"], [[]]⟩]⟩ ∧
    ¬ Agree mArchive ⟨§"get", §"/v1/archives/{alt}", none⟩ ∧
    (§"alt") ∈ addedFields mArchive [] ∧ ¬ Unbound ⟨§"get", §"/v1/archives/{alt}", none⟩ (§"alt") := by
  simp +unfoldPartialApp only [table_form]
  decide +kernel

/-! ### repaired by 151ee10: a required field with a reserved name bound by the PRIMARY binding -/

def mClass : MethodD :=
  { http := ⟨some (§"get"), §"/v1/{class=classes/*}", []⟩, additional := [],
    fields := [⟨§"class", .str, false, true, .implicit⟩, ⟨§"format", .str, false, true, .implicit⟩], clientStreaming := false }

/-- `GET /v1/classes/7?format=`: `class` travels in the path only (it used to be sent again as `class=`),
the generator's table agrees with the binding, and the unbound reserved-name field `format` still gets
its default under its JSON name -/
theorem reserved_path_field_regression :
    restCall (refTranscode (rtNames mClass)) mClass false [⟨[§"class"], [.plain (§"classes/7")]⟩] =
      .ok ⟨§"get", §"/v1/classes/7", none, [⟨[§"format"], [[]]⟩]⟩ ∧
    Agree mClass ⟨§"get", §"/v1/{class_=classes/*}", none⟩ ∧
    (∀ n ∈ rtNames mClass, [n] ∈ varPaths (scan (convertUri mClass.http.uri)) ↔
      n ∈ (pathParams mClass.http.uri).map fixSeg) := by
  simp +unfoldPartialApp only [table_form]
  decide +kernel

/-! ### OPEN: the default of a required `bytes` field is the text `b''`; a required REPEATED field is
defaulted like a singular one (the emitted unit tests expect exactly this, so a repair breaks them) -/

def mBlob : MethodD :=
  { http := ⟨some (§"get"), §"/v1/{name=things/*}", []⟩, additional := [],
    fields := [⟨§"name", .str, false, true, .implicit⟩, ⟨§"blob", .bytes, false, true, .implicit⟩], clientStreaming := false }

/-- `GET /v1/things/1?blob=b''`: the Python repr of empty bytes, not base64 -/
theorem bytes_default_counterexample :
    restCall (refTranscode (rtNames mBlob)) mBlob false [⟨[§"name"], [.plain (§"things/1")]⟩] =
      .ok ⟨§"get", §"/v1/things/1", none, [⟨[§"blob"], [§"b''"]⟩]⟩ := by
  simp +unfoldPartialApp only [table_form]
  decide +kernel

def mTags : MethodD :=
  { http := ⟨some (§"get"), §"/v1/{name=things/*}", []⟩, additional := [],
    fields := [⟨§"name", .str, false, true, .implicit⟩, ⟨§"tags", .str, true, true, .implicit⟩], clientStreaming := false }

/-- `GET /v1/things/1?tags=`: an unset required repeated field travels as ONE default element, which a
server reads as a one-element list -/
theorem repeated_default_counterexample :
    restCall (refTranscode (rtNames mTags)) mTags false [⟨[§"name"], [.plain (§"things/1")]⟩] =
      .ok ⟨§"get", §"/v1/things/1", none, [⟨[§"tags"], [[]]⟩]⟩ ∧
    flattenQuery [⟨[§"tags"], [[]]⟩] = [(§"tags", [])] := by
  simp +unfoldPartialApp only [table_form]
  decide +kernel

/-! ### OPEN: whether a body is sent is decided from the PRIMARY binding -/

def mBody1 : MethodD :=
  { http := ⟨some (§"post"), §"/v1/{name=things/*}", §"book"⟩,
    additional := [⟨some (§"get"), §"/v1/other/{mask}", []⟩],
    fields := [⟨§"name", .str, false, false, .implicit⟩, ⟨§"book", .msg, false, false, .implicit⟩, ⟨§"mask", .str, false, false, .implicit⟩],
    clientStreaming := false }

def mBody2 : MethodD :=
  { mBody1 with http := ⟨some (§"get"), §"/v1/{name=things/*}", []⟩,
                additional := [⟨some (§"post"), §"/v1/other/{mask}", §"book"⟩] }

def reqBody : Msg := [⟨[§"mask"], [.plain (§"m")]⟩, ⟨[§"book", §"title"], [.plain (§"x")]⟩]

/-- primary binding has a body, the binding used has none: `KeyError: 'body'` -/
theorem body_keyerror_counterexample :
    restCall (refTranscode (rtNames mBody1)) mBody1 false reqBody = .error .keyErrorBody := by
  simp +unfoldPartialApp only [table_form]
  decide +kernel

/-- primary binding has no body, the binding used has one: `POST /v1/other/m` with no body; `book` is lost -/
theorem body_lost_counterexample :
    restCall (refTranscode (rtNames mBody2)) mBody2 false reqBody = .ok ⟨§"post", §"/v1/other/m", none, []⟩ ∧
    refTranscode (rtNames mBody2) (httpOptions mBody2) (rtMsg reqBody) =
      some ⟨§"post", §"/v1/other/m", some [⟨[§"title"], [.plain (§"x")]⟩], []⟩ := by
  simp +unfoldPartialApp only [table_form]
  decide +kernel

/-! ### repaired by 3aedaba: the body is renamed exactly like the field -/

/-- **a named body always refers to the emitted field**: `try_parse_http_rule` and `Field.name` rename alike
(also for `__peg_parser__`, the reserved word that ends in an underscore) -/
theorem fixBody_eq_fixSeg (b : Str) (h : b ≠ []) : fixBody b = some (fixSeg b) := by
  unfold fixBody fixSeg
  simp only [h, if_false]
  split <;> rfl

def mPeg : MethodD :=
  { http := ⟨some (§"post"), §"/v1/things/{id}", §"__peg_parser__"⟩, additional := [],
    fields := [⟨§"id", .str, false, false, .implicit⟩, ⟨§"__peg_parser__", .msg, false, false, .implicit⟩], clientStreaming := false }

theorem body_rename_regression :
    restCall (refTranscode (rtNames mPeg)) mPeg false
        [⟨[§"id"], [.plain (§"7")]⟩, ⟨[§"__peg_parser__", §"title"], [.plain (§"t")]⟩] =
      .ok ⟨§"post", §"/v1/things/7", some [⟨[§"title"], [§"t"]⟩], []⟩ := by
  simp +unfoldPartialApp only [table_form]
  decide +kernel

end Examples
section Translated
open GapicModel.PyRt

/-- `fixSeg` IS the code's current `_fix_name_segment` (translated from gapic/utils/uri_conv.py on every run) -/
theorem fixSeg_is_translated (s : List Char) : fixSeg s = Pinned.Funcs.fix_name_segment s := by
  simp [fixSeg, Pinned.Funcs.fix_name_segment, strIn, reserved]

/-- `fixFieldPath` IS the code's current `_fix_field_path` -/
theorem fixFieldPath_is_translated (p : List Char) : fixFieldPath p = Pinned.Funcs.fix_field_path p := by
  rw [fixFieldPath, Pinned.Funcs.fix_field_path, joinWith_eq, splitOn_eq, Lemmas.SplitJoin.join_eq, Lemmas.SplitJoin.split_eq,
    funext fixSeg_is_translated]

/-! ## `camelKey` IS the code's current `to_camel_case` on lower snake_case names
`to_camel_case` runs `to_snake_case`, splits at `[_-]`, lower-cases the first piece and capitalises the others.  On a lower
snake_case name none of the four substitutions of `to_snake_case` finds a capital to match (`Lemmas/Snake.lean`) and there is
no `-`, so what is left is `camelItems (splitOn '_' n)`; `camel_eq_json` then gives the JSON name.  T2 compares `camelKey`
with the real function on random lower snake_case names on every run. -/

theorem lowerC_eq_toLower (c : Char) : lowerC c = c.toLower := by
  by_cases h : 65 ≤ c.toNat ∧ c.toNat ≤ 90
  · have key : ∀ n < 91, 65 ≤ n → lowerC (Char.ofNat n) = (Char.ofNat n).toLower := by decide +kernel
    simpa using key c.toNat (by omega) h.1
  · have h' : ¬ (c.val ≥ 'A'.val ∧ c.val ≤ 'Z'.val) := h
    have h'' : ¬ ('A' ≤ c ∧ c ≤ 'Z') := h
    rw [lowerC, Char.toLower, if_neg h'', dif_neg h']

theorem upperC_eq_toUpper (c : Char) : upperC c = c.toUpper := by
  by_cases h : 97 ≤ c.toNat ∧ c.toNat ≤ 122
  · have key : ∀ n < 123, 97 ≤ n → upperC (Char.ofNat n) = (Char.ofNat n).toUpper := by decide +kernel
    simpa using key c.toNat (by omega) h.1
  · have h' : ¬ ('a'.val ≤ c.val ∧ c.val ≤ 'z'.val) := h
    have h'' : ¬ ('a' ≤ c ∧ c ≤ 'z') := h
    rw [upperC, Char.toUpper, if_neg h'', dif_neg h']

theorem lower_eq : @PyRt.lower = @Model.Http.lower := by
  funext s; simp [PyRt.lower, Model.Http.lower, lowerC_eq_toLower]

theorem capitalize_eq : @PyRt.capitalize = @Model.Http.capitalize := by
  funext s; cases s <;> simp [PyRt.capitalize, Model.Http.capitalize, upperC_eq_toUpper, lower_eq]

/-- `re.split("[_-]", s)` on a text without `-` is `s.split("_")` -/
theorem reSplitAux_underscore : ∀ (n : Nat) (pre cur s : List Char), s.length < n → '-' ∉ s →
    reSplitAux (.cls false [.ch '_', .ch '-']) n pre cur s =
      List.splitOnPPrepend (· == '_') s cur
  | n + 1, pre, cur, [], _, _ => by simp [reSplitAux]
  | n + 1, pre, cur, c :: cs, hn, hs => by
    have ih := fun pre cur => reSplitAux_underscore n pre cur cs (by simpa using hn) (fun h => hs (List.mem_cons_of_mem _ h))
    have hc : c ≠ '-' := fun h => hs (h ▸ List.mem_cons_self)
    by_cases hu : c = '_'
    · subst hu
      simp [reSplitAux, Regex.matchAt, Regex.m, Regex.clsTest, Regex.CItem.test, ih, List.splitOnPPrepend_cons_eq_if,
        Nat.not_succ_le_self]
    · simp [reSplitAux, Regex.matchAt, Regex.m, Regex.clsTest, Regex.CItem.test, ih, Ne.symm hu, Ne.symm hc,
        List.splitOnPPrepend_cons_eq_if, hu]

theorem reSplit_underscore (s : List Char) (hs : '-' ∉ s) : reSplit (.cls false [.ch '_', .ch '-']) s = s.splitOn '_' :=
  reSplitAux_underscore _ [] [] s (Nat.lt_succ_self _) hs

theorem camelKey_is_translated (n : List Char) (h : LowerSnake n) : camelKey n = Pinned.Funcs.to_camel_case n := by
  obtain ⟨hc, hd⟩ := lowerSnake_noCap h
  have hsn : Pinned.Funcs.to_snake_case n = n := by
    rw [← Lemmas.Snake.snake_eq_translated, Lemmas.Snake.snake_of_noCap n hc]
  obtain ⟨x, t, e⟩ := List.exists_cons_of_ne_nil (List.splitOn_ne_nil '_' n)
  simp [Pinned.Funcs.to_camel_case, hsn, reSplit_underscore n hd, camelKey, splitOn_eq, e, camelItems, head0, slice, normIdx,
    lower_eq, capitalize_eq, Lemmas.SplitJoin.join_eq, Split.intercalate_nil_left]

/-- the field names of the C04 generator's pools (harness/props/c04.py) and of the corpus -/
def genNames : List (List Char) := [§"filter", §"page_size", §"force", §"ratio", §"weight", §"count64", §"ucount", §"big", §"sf", §"sf64",
  §"f32", §"f64", §"si", §"si64", §"blob", §"order_by", §"format", §"max", §"in", §"view", §"tags", §"nums", §"kinds", §"list", §"author",
  §"update_mask", §"read_time", §"ttl", §"limit", §"strict", §"note", §"opt_s", §"opt_n", §"labels", §"chapters", §"meta", §"choice_a",
  §"choice_b", §"name", §"parent", §"shelf_id", §"book_id", §"class", §"type", §"import", §"rev", §"uid", §"book", §"item", §"object",
  §"payload", §"allow_missing", §"validate_only", §"alt", §"mask", §"id", §"q", §"depth", §"opt_count", §"show_deleted", §"opt_ratio",
  §"opt_big", §"opt_label", §"opt_view", §"pick_s", §"pick_n", §"pick_b"]

theorem camelKey_is_translated_on_generated_names :
    ∀ n ∈ genNames, camelKey (fixSeg n) = Pinned.Funcs.to_camel_case (fixSeg n) := fun n hn =>
  camelKey_is_translated _ (lowerSnake_fixSeg _
    ((by decide +kernel : ∀ n ∈ genNames, ∀ c ∈ n, c = '_' ∨ c.isLower = true ∨ c.isDigit = true) n hn))

theorem camelKey_is_translated_on_reserved_words :
    ∀ w ∈ reserved, (w.all fun c => c == '_' || c.isLower || c.isDigit) = true →
      camelKey (fixSeg w) = Pinned.Funcs.to_camel_case (fixSeg w) := fun w _ hw =>
  camelKey_is_translated _ (lowerSnake_fixSeg _ fun c hc => by simpa [or_assoc] using List.all_eq_true.mp hw c hc)

end Translated

end GapicModel.Props.C04
