import GapicModel.Model.Samples
import GapicModel.Pinned.Regexes
import GapicModel.Pinned.CharClass
import GapicModel.Pinned.Funcs
import GapicModel.Pinned.Tables
import GapicModel.Lemmas.Tables
import GapicModel.Lemmas.Split
import GapicModel.Lemmas.Keyed
import GapicModel.Lemmas.Snake
/-
C14 — generated samples are valid, executable and consistent with their metadata (DESIGN §7.14).
Property theorems about `Model/Samples.lean` (+ helper lemmas in `section Aux`), non-vacuity examples,
and `_counterexample` theorems at the points where the real code violates the statement
(each of them is replayed on the real generator by harness/props/c14.py).
-/
namespace GapicModel.Props.C14
open GapicModel.Regex GapicModel.Model.Samples

/-- the names that go into a region tag contain no `_` (the tag format is not injective otherwise) -/
def NoUs (s : List Char) : Prop := '_' ∉ s

instance (s : List Char) : Decidable (NoUs s) := inferInstanceAs (Decidable ('_' ∉ s))

section Aux

theorem sampleTransports_eq (o : Opts) :
    sampleTransports o = if o.grpc then [.grpc, .grpcAsync] else if o.rest then [.rest] else [] := by
  rcases o with ⟨g, r⟩
  cases g <;> cases r <;> rfl

theorem sampleTransports_flavours (o : Opts) : ((sampleTransports o).map syncOrAsync).Nodup := by
  rcases o with ⟨g, r⟩
  revert g r
  decide +kernel

theorem mem_sampleSpecs {v : List Char} {o : Opts} {svcs : List Service} {sp : Spec} :
    sp ∈ sampleSpecs v o svcs ↔
      ∃ s ∈ svcs, ∃ t ∈ sampleTransports o, ∃ r ∈ s.rpcs, sp = mkSpec v s t r := by
  simp only [sampleSpecs, serviceSpecs, List.mem_flatMap, List.mem_map, eq_comm (a := sp)]

/-- a spec of the API is identified by its service, its `sync`/`async` word and its RPC -/
theorem specs_keys_nodup (v : List Char) (o : Opts) (svcs : List Service) (hs : (svcs.map (·.name)).Nodup)
    (hr : ∀ s ∈ svcs, (s.rpcs.map (·.name)).Nodup) :
    ((sampleSpecs v o svcs).map fun sp => (sp.service, syncOrAsync sp.transport, sp.rpc)).Nodup := by
  have : (sampleSpecs v o svcs).map (fun sp => (sp.service, syncOrAsync sp.transport, sp.rpc)) =
      svcs.flatMap fun s => ((sampleTransports o).flatMap fun t =>
        (s.rpcs.map (·.name)).map (Prod.mk (syncOrAsync t))).map (Prod.mk s.name) := by
    simp only [sampleSpecs, serviceSpecs, List.map_flatMap, List.map_map, mkSpec, Function.comp_def]
  rw [this]
  exact Keyed.nodup_flatMap_mk hs fun s hsm => Keyed.nodup_flatMap_mk (sampleTransports_flavours o) fun t _ => hr s hsm

/-- the specs of one RPC: one per sample transport, in that order -/
theorem specs_of_rpc (v : List Char) (o : Opts) (svcs : List Service)
    (hs : (svcs.map (·.name)).Nodup) (s : Service) (hmem : s ∈ svcs)
    (hr : (s.rpcs.map (·.name)).Nodup) (r : Rpc) (hrm : r ∈ s.rpcs) :
    (sampleSpecs v o svcs).filter (fun sp => decide (sp.service = s.name ∧ sp.rpc = r.name)) =
      (sampleTransports o).map fun t => mkSpec v s t r := by
  rw [sampleSpecs, List.filter_flatMap, Keyed.flatMap_eq_of_key (·.name) _ s svcs hs hmem, serviceSpecs,
    List.filter_flatMap, List.map_eq_flatMap]
  · congr 1
    funext t
    rw [List.filter_map, Keyed.filter_eq_of_key (·.name) _ r s.rpcs hr hrm]
    · rfl
    · intro y
      simp only [Function.comp, mkSpec, true_and, decide_eq_true_eq]
  · intro s' hne
    simp only [serviceSpecs, List.filter_eq_nil_iff, List.mem_flatMap, List.mem_map]
    rintro _ ⟨t, _, r', _, rfl⟩
    simp [mkSpec, hne]

theorem splitOn_append_us {a : List Char} (h : NoUs a) (b : List Char) :
    (a ++ us ++ b).splitOn '_' = a :: b.splitOn '_' := by
  rw [List.append_assoc]
  exact List.splitOn_append_cons_self_of_not_mem h b

theorem noUs_syncOrAsync (t : Transport) : NoUs (syncOrAsync t) := by
  cases t <;> rw [syncOrAsync] <;> simp -index only [String.toList_ofList] <;> decide

/-- a region tag is its components joined by `_`: `split("_")` gives them back when they contain no `_` themselves -/
theorem splitOn_regionTag {sh v s r : List Char} (hsh : NoUs sh) (hv : NoUs v) (hs : NoUs s) (hr : NoUs r)
    (t : Transport) (i : Bool) :
    (regionTag sh v s r t i).splitOn '_' =
      sh :: v :: "generated".toList :: s :: r :: syncOrAsync t :: if i then ["internal".toList] else [] := by
  have hg : NoUs "generated".toList := by simp -index only [String.toList_ofList]; decide
  rw [regionTag, splitOn_append_us hsh, splitOn_append_us hv, splitOn_append_us hg, splitOn_append_us hs,
    splitOn_append_us hr]
  cases i
  · rw [if_neg Bool.false_ne_true, if_neg Bool.false_ne_true, List.append_nil,
      List.splitOn_eq_singleton (noUs_syncOrAsync t)]
  · simp -index only [String.toList_ofList, if_true]
    rw [List.splitOn_append_cons_self_of_not_mem (noUs_syncOrAsync t), List.splitOn_eq_singleton (by decide)]

end Aux

/-- `specs_exact`: for every RPC of every service, the specs generated for it carry exactly the
    transports `grpc, grpc-async` when gRPC is enabled, only `rest` for a REST-only library, and
    nothing otherwise — one synchronous sample and, with gRPC, one asyncio sample. -/
theorem specs_exact (v : List Char) (o : Opts) (svcs : List Service)
    (hs : (svcs.map (·.name)).Nodup) (s : Service) (hmem : s ∈ svcs)
    (hr : (s.rpcs.map (·.name)).Nodup) (r : Rpc) (hrm : r ∈ s.rpcs) :
    ((sampleSpecs v o svcs).filter (fun sp => decide (sp.service = s.name ∧ sp.rpc = r.name))).map (·.transport)
      = if o.grpc then [.grpc, .grpcAsync] else if o.rest then [.rest] else [] := by
  rw [specs_of_rpc v o svcs hs s hmem hr r hrm, List.map_map, ← sampleTransports_eq]
  exact List.map_id _

example : (sampleSpecs "v1".toList ⟨true, true⟩ [⟨"Library".toList, "lib".toList, [⟨"GetBook".toList, false⟩]⟩]).map
    (fun sp => (sp.transport, sp.regionTag))
    = [(.grpc, "lib_v1_generated_Library_GetBook_sync".toList),
       (.grpcAsync, "lib_v1_generated_Library_GetBook_async".toList)] := by
  simp -index only [String.toList_ofList]
  decide +kernel

/-- `region_tag_format`: every generated spec carries
    `<host shortname>_<version>_generated_<Service>_<Rpc>_<sync|async>` (`_internal` appended for
    selectively-hidden methods), and the last component is `async` exactly for the asyncio transport. -/
theorem region_tag_format (v : List Char) (o : Opts) (svcs : List Service) (sp : Spec)
    (h : sp ∈ sampleSpecs v o svcs) :
    ∃ s ∈ svcs, ∃ r ∈ s.rpcs, sp.service = s.name ∧ sp.rpc = r.name ∧
      sp.regionTag = s.shortname ++ us ++ v ++ us ++ "generated".toList ++ us ++ s.name ++ us ++ r.name ++ us ++
        (if sp.transport = .grpcAsync then "async".toList else "sync".toList) ++
        (if r.internal then "_internal".toList else []) := by
  obtain ⟨s, hs, t, _, r, hr, rfl⟩ := mem_sampleSpecs.mp h
  refine ⟨s, hs, r, hr, rfl, rfl, ?_⟩
  have : syncOrAsync t = if t = .grpcAsync then "async".toList else "sync".toList := by cases t <;> rfl
  rw [mkSpec, regionTag, this]
  simp only [List.append_assoc]

/-- `region_tags_unique`: when host short names, the version, service and RPC names contain no `_`,
    service names are pairwise distinct and so are the RPC names of each service, no two samples of
    the API share a region tag. -/
theorem region_tags_unique (v : List Char) (o : Opts) (svcs : List Service)
    (hv : NoUs v)
    (hnames : ∀ s ∈ svcs, NoUs s.shortname ∧ NoUs s.name ∧ ∀ r ∈ s.rpcs, NoUs r.name)
    (hs : (svcs.map (·.name)).Nodup)
    (hr : ∀ s ∈ svcs, (s.rpcs.map (·.name)).Nodup) :
    ((sampleSpecs v o svcs).map (·.regionTag)).Nodup := by
  refine Keyed.nodup_map_of_key (specs_keys_nodup v o svcs hs hr) fun x hx y hy e => ?_
  obtain ⟨s1, h1, t1, _, r1, hr1, rfl⟩ := mem_sampleSpecs.mp hx
  obtain ⟨s2, h2, t2, _, r2, hr2, rfl⟩ := mem_sampleSpecs.mp hy
  obtain ⟨hsh1, hsn1, hrn1⟩ := hnames s1 h1
  obtain ⟨hsh2, hsn2, hrn2⟩ := hnames s2 h2
  -- equal tags have the same words
  have := congrArg (List.splitOn '_') e
  simp only [mkSpec, splitOn_regionTag hsh1 hv hsn1 (hrn1 r1 hr1), splitOn_regionTag hsh2 hv hsn2 (hrn2 r2 hr2),
    List.cons.injEq] at this
  simp only [mkSpec, this]

example : NoUs "v1".toList ∧ NoUs "lib".toList ∧ NoUs "Library".toList ∧ NoUs "GetBook".toList := by
  simp -index only [String.toList_ofList]
  decide +kernel

/-- without the `_`-freeness hypothesis the format is not injective: service `A_B` with RPC `C` and
    service `A` with RPC `B_C` get the same tag (replayed on the real generator: two metadata entries
    with the same regionTag, files disambiguated by a hash suffix). -/
theorem region_tags_unique_counterexample :
    ¬ ((sampleSpecs "v1".toList ⟨true, false⟩
          [⟨"A_B".toList, "lib".toList, [⟨"C".toList, false⟩]⟩,
           ⟨"A".toList, "lib".toList, [⟨"B_C".toList, false⟩]⟩]).map (·.regionTag)).Nodup := by
  simp -index only [String.toList_ofList]
  decide +kernel

/-- `calling_form_total`: `CallingForm.method_default` is a total decision list — LRO first, then
    paged, then the three streaming forms, else plain unary; every method gets exactly one form. -/
theorem calling_form_total (m : MethodShape) :
    (callingForm m = .longRunningRequestPromise ↔ m.lro = true) ∧
    (callingForm m = .requestPagedAll ↔ m.lro = false ∧ m.paged = true) ∧
    (callingForm m = .requestStreamingBidi ↔
        m.lro = false ∧ m.paged = false ∧ m.clientStreaming = true ∧ m.serverStreaming = true) ∧
    (callingForm m = .requestStreamingClient ↔
        m.lro = false ∧ m.paged = false ∧ m.clientStreaming = true ∧ m.serverStreaming = false) ∧
    (callingForm m = .requestStreamingServer ↔
        m.lro = false ∧ m.paged = false ∧ m.clientStreaming = false ∧ m.serverStreaming = true) ∧
    (callingForm m = .request ↔
        m.lro = false ∧ m.paged = false ∧ m.clientStreaming = false ∧ m.serverStreaming = false) := by
  rcases m with ⟨a, b, c, d⟩
  revert a b c d
  decide +kernel

section Aux

theorem go_append : ∀ (a b : List Kind) (i : Nat) (s : Segs), go i (a ++ b) s = go (i + a.length) b (go i a s)
  | [], _, _, _ => rfl
  | k :: ks, b, i, s => by
    rw [List.length_cons, ← Nat.add_assoc, Nat.add_right_comm]
    exact go_append ks b (i + 1) (step i k s)

/-- A view `π` of the segments that lines outside `P` do not write, and whose update by any line depends on the view
alone. -/
structure View {β} (π : Segs → β) (P : Kind → Bool) : Prop where
  ignore : ∀ i k s, P k = false → π (step i k s) = π s
  congr : ∀ i k s s', π s = π s' → π (step i k s) = π (step i k s')

variable {β} {π : Segs → β} {P : Kind → Bool}

theorem View.go_congr (v : View π P) :
    ∀ (ks : List Kind) (i : Nat) (s s' : Segs), π s = π s' → π (go i ks s) = π (go i ks s')
  | [], _, _, _, h => h
  | k :: ks, i, s, s', h => v.go_congr ks _ _ _ (v.congr i k s s' h)

/-- lines outside `P` leave the view alone … -/
theorem View.skip_all (v : View π P) :
    ∀ (l : List Kind), (∀ k ∈ l, P k = false) → ∀ (i : Nat) (s : Segs), π (go i l s) = π s
  | [], _, _, _ => rfl
  | k :: l, h, i, s =>
    (v.skip_all l (fun k' hk' => h k' (List.mem_cons_of_mem _ hk')) _ _).trans (v.ignore i k s (h k List.mem_cons_self))

/-- … so a block of them in front of a line `k` only moves the line counter -/
theorem View.skip (v : View π P) (l : List Kind) (h : ∀ k ∈ l, P k = false) (k : Kind) (rest : List Kind)
    (i : Nat) (s : Segs) :
    π (go i (l ++ k :: rest) s) = π (go (i + l.length + 1) rest (step (i + l.length) k s)) := by
  rw [go_append]
  exact v.go_congr (k :: rest) _ _ _ (v.skip_all l h i s)

/-- the segments the marker comments write / the segments the START and END tags write -/
def inner (s : Segs) := (s.clientInit, s.requestInit, s.requestExec, s.responseHandling)
def outer (s : Segs) := (s.full, s.short)

theorem inner_view : View inner Kind.isMarker where
  ignore i k s h := by cases k <;> first | rfl | cases h
  congr i k s s' h := by
    simp only [inner, Prod.mk.injEq] at h
    obtain ⟨h1, h2, h3, h4⟩ := h
    cases k <;> simp only [inner, step, h1, h2, h3, h4]

theorem outer_view : View outer Kind.isTag where
  ignore i k s h := by cases k <;> first | rfl | cases h
  congr i k s s' h := by
    simp only [outer, Prod.mk.injEq] at h
    obtain ⟨h1, h2⟩ := h
    cases k <;> simp only [outer, step, h1, h2]

end Aux

/-- FULL and SHORT of a sample with one START line and one END line: the line after the START tag
    to the line before the END tag (kind level). -/
theorem full_segment (pre body post : List Kind)
    (hpre : ∀ k ∈ pre, k.isTag = false) (hbody : ∀ k ∈ body, k.isTag = false)
    (hpost : ∀ k ∈ post, k.isTag = false) :
    outer (parseKinds (pre ++ .start :: body ++ .stop :: post)) =
      (⟨pre.length + 2, pre.length + body.length + 1⟩, ⟨pre.length + 2, pre.length + body.length + 1⟩) := by
  simp only [parseKinds, List.append_assoc, List.cons_append]
  rw [outer_view.skip pre hpre, outer_view.skip body hbody, outer_view.skip_all post hpost]
  simp only [outer, step, initSegs, Prod.mk.injEq, Seg.mk.injEq, Nat.add_assoc, Nat.add_sub_cancel_left]
  simp +arith only [and_self]

section Aux

theorem pyBound_natCast (n a : Nat) : pyBound n (a : Int) = min a n := by
  rw [pyBound, if_neg (by omega), Int.toNat_natCast]

/-- `l[a:b]` for non-negative bounds -/
theorem pySlice_natCast {α} (l : List α) (a b : Nat) : pySlice l (a : Int) (b : Int) = (l.take b).drop a := by
  rw [pySlice, pyBound_natCast, pyBound_natCast, ← List.drop_take, ← List.take_eq_take_min, List.drop_eq_drop_iff,
    List.length_take, Nat.min_assoc, Nat.min_eq_right (Nat.min_le_right ..)]

/-- `full_snippet` once a START tag has been seen: no negative slice bound -/
theorem fullSnippetLines_eq (lines : List (List Char)) (s : Segs) (h : 0 < s.full.start) :
    fullSnippetLines lines s = (lines.take s.full.stop).drop (s.full.start - 1) := by
  rw [fullSnippetLines, ← pySlice_natCast, Int.natCast_sub h]
  rfl

end Aux

/-- `full_snippet_between_tags`: for a sample with exactly one `# [START` line and one `# [END` line
    (START first), `Snippet.full_snippet` — the text embedded into the client method's docstring —
    is exactly the lines strictly between the two tag lines. -/
theorem full_snippet_between_tags (t : ClassTables) (mk : Markers)
    (pre body post : List (List Char)) (sl el : List Char)
    (hsl : classify t mk sl = .start) (hel : classify t mk el = .stop)
    (hpre : ∀ l ∈ pre, (classify t mk l).isTag = false)
    (hbody : ∀ l ∈ body, (classify t mk l).isTag = false)
    (hpost : ∀ l ∈ post, (classify t mk l).isTag = false) :
    let lines := pre ++ sl :: body ++ el :: post
    fullSnippetLines lines (parseSegments t mk lines) = body ∧
    fullSnippet lines (parseSegments t mk lines) = body.flatten := by
  intro lines
  have hf : (parseSegments t mk lines).full = ⟨pre.length + 2, pre.length + body.length + 1⟩ := by
    have := full_segment _ _ _ (List.forall_mem_map.mpr hpre) (List.forall_mem_map.mpr hbody)
      (List.forall_mem_map.mpr hpost)
    simp only [List.length_map] at this
    simp only [parseSegments, lines, List.map_append, List.map_cons, hsl, hel]
    exact congrArg Prod.fst this
  have key : fullSnippetLines lines (parseSegments t mk lines) = body := by
    rw [fullSnippetLines_eq _ _ (by rw [hf]; exact Nat.succ_pos _), hf,
      show lines = (pre ++ [sl]) ++ body ++ el :: post by simp [lines],
      List.take_left' (by simp; omega), List.drop_left' (by simp)]
  exact ⟨key, by rw [fullSnippet, key]⟩

/-- `segments_ordered_contiguous`: when the four marker comments appear once each and in the order the
    sample template emits them, the four inner segments are consecutive, ordered, each starts at its
    marker line, and RESPONSE_HANDLING runs to the LAST LINE OF THE FILE (`len(sample_lines)`, i.e. it
    includes the END tag line and whatever follows it — the model follows the code). -/
theorem segments_ordered_contiguous (l0 l1 l2 l3 l4 : List Kind)
    (h0 : ∀ k ∈ l0, k.isMarker = false) (h1 : ∀ k ∈ l1, k.isMarker = false)
    (h2 : ∀ k ∈ l2, k.isMarker = false) (h3 : ∀ k ∈ l3, k.isMarker = false)
    (h4 : ∀ k ∈ l4, k.isMarker = false) :
    let ks := l0 ++ .clientInit :: l1 ++ .requestInit :: l2 ++ .requestExec :: l3 ++ .responseHandling :: l4
    let s := parseKinds ks
    s.clientInit = ⟨l0.length + 1, l0.length + l1.length + 1⟩ ∧
    s.requestInit = ⟨l0.length + l1.length + 2, l0.length + l1.length + l2.length + 2⟩ ∧
    s.requestExec = ⟨l0.length + l1.length + l2.length + 3, l0.length + l1.length + l2.length + l3.length + 3⟩ ∧
    s.responseHandling = ⟨l0.length + l1.length + l2.length + l3.length + 4, ks.length⟩ := by
  intro ks s
  -- the four equations as one, between `inner s` and a quadruple
  rw [← Prod.mk.injEq, ← Prod.mk.injEq, ← Prod.mk.injEq]
  show inner (parseKinds ks) = _
  simp only [ks, parseKinds, List.append_assoc, List.cons_append]
  rw [inner_view.skip l0 h0, inner_view.skip l1 h1, inner_view.skip l2 h2, inner_view.skip l3 h3,
    inner_view.skip_all l4 h4]
  simp only [inner, step, initSegs, Prod.mk.injEq, Seg.mk.injEq, Nat.add_assoc, Nat.add_sub_cancel_left]
  simp +arith only [and_self]

/-- A sample WITHOUT a `# Handle the response` line (what the template emits for a void method):
    REQUEST_EXECUTION gets a start but never an end (it stays 0, the proto default), and
    RESPONSE_HANDLING gets no start but `end = len(sample_lines)` — the two ranges in the emitted
    metadata are not line ranges of the file.  Replayed on the real generator (known finding). -/
theorem void_sample_segments_counterexample (l0 l1 l2 l3 : List Kind)
    (h0 : ∀ k ∈ l0, k.isMarker = false) (h1 : ∀ k ∈ l1, k.isMarker = false)
    (h2 : ∀ k ∈ l2, k.isMarker = false) (h3 : ∀ k ∈ l3, k.isMarker = false) :
    let ks := l0 ++ .clientInit :: l1 ++ .requestInit :: l2 ++ .requestExec :: l3
    let s := parseKinds ks
    s.requestExec = ⟨l0.length + l1.length + l2.length + 3, 0⟩ ∧ s.responseHandling = ⟨0, ks.length⟩ := by
  intro ks s
  rw [← Prod.mk.injEq]
  show (inner (parseKinds ks)).2.2 = _
  simp only [ks, parseKinds, List.append_assoc, List.cons_append]
  rw [inner_view.skip l0 h0, inner_view.skip l1 h1, inner_view.skip l2 h2, inner_view.skip_all l3 h3]
  simp only [inner, step, initSegs, Prod.mk.injEq, Seg.mk.injEq, Nat.add_assoc, Nat.add_sub_cancel_left]
  simp +arith only [and_self]

/-- the four extracted regexes of snippet_index.py, as pinned by the T1 translator -/
def pinnedMarkers : Markers :=
  ⟨Pinned.clientInit.re, Pinned.requestInit.re, Pinned.requestExec.re, Pinned.responseHandling.re⟩

/-- the lines of a (shortened) emitted sample, as `str.splitlines(keepends=True)` gives them -/
def demoLines : List (List Char) :=
  ["# Generated code. DO NOT EDIT!\n", "\n", "# [START lib_v1_generated_Library_GetBook_sync]\n",
   "from acme import lib_v1\n", "\n", "\n", "def sample_get_book():\n", "    # Create a client\n",
   "    client = lib_v1.LibraryClient()\n", "\n", "    # Initialize request argument(s)\n",
   "    request = lib_v1.GetBookRequest(\n", "    )\n", "\n", "    # Make the request\n",
   "    response = client.get_book(request=request)\n", "\n", "    # Handle the response\n",
   "    print(response)\n", "\n", "# [END lib_v1_generated_Library_GetBook_sync]\n"].map String.toList

/-- non-vacuity: the pinned regexes classify the lines of a real sample as the hypotheses of the
    segment theorems require, and the computed segments are the ones the generator emits. -/
theorem demoLines_kinds : demoLines.map (classify Pinned.classTables pinnedMarkers) =
    [.other, .other, .start, .other, .other, .other, .other, .clientInit, .other, .other, .requestInit,
     .other, .other, .other, .requestExec, .other, .other, .responseHandling, .other, .other, .stop] := by
  -- the literals first: `String.toList` on a literal is dear in the kernel
  simp -index only [demoLines, List.map_cons, List.map_nil, String.toList_ofList]
  decide +kernel

example : demoLines.map (classify Pinned.classTables pinnedMarkers) =
    [.other, .other, .start, .other, .other, .other, .other, .clientInit, .other, .other, .requestInit,
     .other, .other, .other, .requestExec, .other, .other, .responseHandling, .other, .other, .stop] :=
  demoLines_kinds

example : parseSegments Pinned.classTables pinnedMarkers demoLines =
    ⟨⟨4, 20⟩, ⟨4, 20⟩, ⟨8, 10⟩, ⟨11, 14⟩, ⟨15, 17⟩, ⟨18, 21⟩⟩ := by
  rw [parseSegments, demoLines_kinds]
  decide +kernel

example : fullSnippetLines demoLines (parseSegments Pinned.classTables pinnedMarkers demoLines)
    = (demoLines.drop 3).take 17 := by
  rw [parseSegments, demoLines_kinds]
  rfl

/-- `segments_depend_only_on_kinds`: the metadata is computed on the RAW render while the emitted file
    is `fix_whitespace(raw)`.  The segments are a function of the per-line classification only, so the
    metadata describes the emitted file whenever post-processing keeps the sequence of line kinds
    (the harness checks exactly this on every sample, with the machine-translated `fix_whitespace`). -/
theorem segments_depend_only_on_kinds (t : ClassTables) (mk : Markers) (raw emitted : List (List Char))
    (h : raw.map (classify t mk) = emitted.map (classify t mk)) :
    parseSegments t mk raw = parseSegments t mk emitted := by
  rw [parseSegments, parseSegments, h]

/-- …and it does NOT when a line disappears: dropping one blank line in front of the markers moves
    every later boundary by one (the slip of the trial change `seeded/seed4_C14`). -/
theorem blank_line_removed_shifts_segments_counterexample :
    parseKinds [.start, .other, .other, .clientInit, .requestInit, .requestExec, .responseHandling, .stop] ≠
    parseKinds [.start, .other, .clientInit, .requestInit, .requestExec, .responseHandling, .stop] := by
  decide +kernel

example : demoLines.map (classify Pinned.classTables pinnedMarkers) =
    (demoLines.map fun l => l).map (classify Pinned.classTables pinnedMarkers) := by simp

section Aux

/-- `f` is a member of the real oneof `o` (a proto3-`optional` field sits in a synthetic oneof and is not one): the fields
    among which `selectedOneofs` picks the first -/
def inOneof (o : List Char) (f : Field) : Bool := f.oneof == some o && !f.proto3Optional

theorem selectedOneofs_filter (o : List Char) (seen : List (List Char)) (fs : List Field) :
    (selectedOneofs seen fs).filter (inOneof o) =
      if seen.contains o then [] else (fs.find? (inOneof o)).toList := by
  fun_induction selectedOneofs seen fs with
  | case1 => simp
  | case2 seen f fs o' ho hp ih => rw [ih, List.find?_cons_of_neg (by simp [inOneof, hp])]
  | case3 seen f fs o' ho hp hs ih =>
    -- a later member of a oneof that has been seen
    by_cases h : o' = o
    · rw [ih, ← h, if_pos hs, if_pos hs]
    · rw [ih, List.find?_cons_of_neg (by simp [inOneof, ho, h])]
  | case4 seen f fs o' ho hp hs ih =>
    -- the first member of its oneof: selected, and the oneof marked as seen
    by_cases h : o' = o
    · subst h
      have hf : inOneof o' f = true := by simp [inOneof, ho, hp]
      rw [List.filter_cons_of_pos hf, ih, if_pos (by simp), if_neg hs, List.find?_cons_of_pos (l := fs) hf]
      rfl
    · have hf : ¬ inOneof o f = true := by simp [inOneof, ho, h]
      rw [List.filter_cons_of_neg hf, ih, List.find?_cons_of_neg hf]
      simp [Ne.symm h]
  | case5 seen f fs ho ih => rw [ih, List.find?_cons_of_neg (by simp [inOneof, ho])]

theorem requiredNonOneof_filter (o : List Char) (fs : List Field) :
    (requiredNonOneof fs).filter (inOneof o) = [] := by
  rw [List.filter_eq_nil_iff]
  intro f hf
  simp only [requiredNonOneof, List.mem_filter, Bool.and_eq_true, Bool.or_eq_true, Option.isNone_iff_eq_none] at hf
  rcases hf.2.2 with h | h <;> simp [inOneof, h]

end Aux

/-- `request_one_member_per_oneof`: among the fields the default request is built from, each real
    (non-synthetic) oneof of the message is represented by exactly one member — the first declared —
    and by none if the message has no such oneof. -/
theorem request_one_member_per_oneof (m : Msg) (o : List Char) :
    (requestFields m).filter (inOneof o) = (m.fields.find? (inOneof o)).toList := by
  rw [requestFields, List.filter_append, selectedOneofs_filter, requiredNonOneof_filter, List.append_nil]
  rfl

/-- a message with a required string, a oneof `kind` {a: int32, b: string} and a proto3-`optional` int32 (in the synthetic
    oneof `_t`) -/
def demoMsg : Msg := ⟨[
  ⟨"name".toList, .prim .str, false, true, none, false⟩,
  ⟨"a".toList, .prim .int, false, false, some "kind".toList, false⟩,
  ⟨"b".toList, .prim .str, false, false, some "kind".toList, false⟩,
  ⟨"t".toList, .prim .int, false, false, some "_t".toList, true⟩]⟩

example : (requestObject [] 1 demoMsg []).toOption = some [⟨["a".toList], .one (.int 97)⟩,
    ⟨["name".toList], .one (.str "name_value".toList)⟩] := by
  simp -index only [demoMsg, String.toList_ofList]
  decide +kernel

example : (requestFields demoMsg).filter (inOneof "kind".toList) = [demoMsg.fields[1]] := by decide +kernel

section Aux

theorem fieldsEntries_ok (env : Env) (recur) (pre : List (List Char)) :
    ∀ (fs : List Field) (es : List Entry), fieldsEntries env recur fs pre = .ok es →
      (∀ f ∈ fs, ∃ here, fieldEntries env recur f pre = .ok here ∧ ∀ e ∈ here, e ∈ es) ∧
      ∀ e ∈ es, ∃ f ∈ fs, ∃ here, fieldEntries env recur f pre = .ok here ∧ e ∈ here := by
  intro fs
  fun_induction fieldsEntries env recur fs pre with
  | case1 => intro es h; cases h; exact ⟨fun _ h => (nomatch h), fun _ h => (nomatch h)⟩
  | case2 => nofun
  | case3 => nofun
  | case4 g gs pre hereg hg rest hr ih =>
    intro es hok
    cases hok
    obtain ⟨h1, h2⟩ := ih rest hr
    constructor
    · rintro f (_ | ⟨_, hf⟩)
      · exact ⟨hereg, hg, fun e he => List.mem_append_left _ he⟩
      · obtain ⟨here, hh, hin⟩ := h1 f hf
        exact ⟨here, hh, fun e he => List.mem_append_right _ (hin e he)⟩
    · intro e he
      rcases List.mem_append.mp he with h | h
      · exact ⟨g, List.mem_cons_self, hereg, hg, h⟩
      · obtain ⟨f, hf, r⟩ := h2 e h
        exact ⟨f, List.mem_cons_of_mem _ hf, r⟩

theorem fieldsEntries_error (env : Env) (recur) (pre : List (List Char)) (x : Err) :
    ∀ (fs : List Field), fieldsEntries env recur fs pre = .error x → ∃ f ∈ fs, fieldEntries env recur f pre = .error x := by
  intro fs
  fun_induction fieldsEntries env recur fs pre with
  | case1 => nofun
  | case2 g gs pre y hg => intro h; cases h; exact ⟨g, List.mem_cons_self, hg⟩
  | case3 g gs pre hereg hg y hr ih =>
    intro h; cases h
    obtain ⟨f, hf, he⟩ := ih hr
    exact ⟨f, List.mem_cons_of_mem _ hf, he⟩
  | case4 => nofun

end Aux

/-- `ReqPath env m p`: `p` is a field path from message `m` down to a scalar/enum leaf along which every step is
    a field the default request is built from (a REQUIRED field outside a real oneof, or the first member of a
    real oneof: `requestFields`) — read off the descriptors alone.  The same message type may occur on any number
    of such paths (sibling fields of one type, the same type at two depths). -/
inductive ReqPath (env : Env) : Msg → List (List Char) → Prop where
  | prim (m : Msg) (f : Field) (t : PyType) : f ∈ requestFields m → f.kind = .prim t → ReqPath env m [f.name]
  | enum (m : Msg) (f : Field) (vs : List (List Char)) (v : List Char) :
      f ∈ requestFields m → f.kind = .enum vs → vs.getLast? = some v → ReqPath env m [f.name]
  | step (m : Msg) (f : Field) (tn : List Char) (sub : Msg) (p : List (List Char)) :
      f ∈ requestFields m → f.kind = .msg tn → env.get tn = some sub → ReqPath env sub p → ReqPath env m (f.name :: p)

/-- every entry of the default request sits at a required leaf path of the message; `request_has_every_required_path`
    is the converse, so the populated paths are exactly these -/
theorem entry_paths_required (env : Env) (fuel : Nat) (m : Msg) (pre : List (List Char))
    (es : List Entry) (h : requestObject env fuel m pre = .ok es) :
    ∀ e ∈ es, ∃ p, ReqPath env m p ∧ e.path = pre ++ p := by
  induction fuel generalizing m pre es with
  | zero => cases h
  | succ n ih =>
    intro e he
    obtain ⟨f, hf, here, hh, hin⟩ := (fieldsEntries_ok env _ pre _ es h).2 e he
    unfold fieldEntries at hh
    split at hh
    · next t hk =>
      cases hh
      exact ⟨[f.name], .prim m f t hf hk, by rw [List.mem_singleton.mp hin]⟩
    · next vs hk =>
      split at hh
      · cases hh
      · next v hv =>
        cases hh
        exact ⟨[f.name], .enum m f vs v hf hk hv, by rw [List.mem_singleton.mp hin]⟩
    · next tn hk =>
      split at hh
      · cases hh
      · next sub hsub =>
        obtain ⟨p, hp, ep⟩ := ih sub _ here hh e hin
        exact ⟨f.name :: p, .step m f tn sub p hf hk hsub hp, by rw [ep]; simp⟩

/-- every entry of the default request starts (below the prefix) with the name of one of those
    request fields: nothing else of the message is populated. -/
theorem entries_come_from_request_fields (env : Env) (fuel : Nat) (m : Msg) (pre : List (List Char))
    (es : List Entry) (h : requestObject env fuel m pre = .ok es) :
    ∀ e ∈ es, ∃ f ∈ requestFields m, ∃ tail, e.path = pre ++ f.name :: tail := by
  intro e he
  obtain ⟨p, hp, ep⟩ := entry_paths_required env fuel m pre es h e he
  cases hp with
  | prim _ f _ hf => exact ⟨f, hf, [], ep⟩
  | enum _ f _ _ hf => exact ⟨f, hf, [], ep⟩
  | step _ f _ _ p hf => exact ⟨f, hf, p, ep⟩

/-- what a field the default request is built from (`requestFields`: a required field outside a real oneof, or the
    first member of a real oneof) contributes, by its type -/
theorem request_has_field {env : Env} {fuel : Nat} {m : Msg} {pre : List (List Char)} {es : List Entry}
    (h : requestObject env (fuel + 1) m pre = .ok es) {f : Field} (hf : f ∈ requestFields m) :
    (∀ t, f.kind = .prim t → ⟨pre ++ [f.name], primMockValue f t⟩ ∈ es) ∧
    (∀ vs v, f.kind = .enum vs → vs.getLast? = some v →
        ⟨pre ++ [f.name], if f.repeated then .many [.str v] else .one (.str v)⟩ ∈ es) ∧
    (∀ tn sub, f.kind = .msg tn → env.get tn = some sub →
        ∃ ses, requestObject env fuel sub (pre ++ [f.name]) = .ok ses ∧ ∀ e ∈ ses, e ∈ es) := by
  -- the field's own entries cannot have failed, otherwise the whole request would have
  obtain ⟨here, hh, hin⟩ := (fieldsEntries_ok env _ pre _ es h).1 f hf
  refine ⟨fun t hk => ?_, fun vs v hk hv => ?_, fun tn sub hk hsub => ?_⟩
  · simp only [fieldEntries, hk, Except.ok.injEq] at hh
    exact hin _ (hh ▸ List.mem_singleton.mpr rfl)
  · simp only [fieldEntries, hk, hv, Except.ok.injEq] at hh
    exact hin _ (hh ▸ List.mem_singleton.mpr rfl)
  · simp only [fieldEntries, hk, hsub] at hh
    exact ⟨here, hh, hin⟩

/-- `request_has_required`: every REQUIRED field outside a real oneof (proto3-`optional` fields included,
    fix 1704548) is handled according to its type —
    a scalar gets exactly its mock value under its own name; an enum its last value; a message-typed
    field gets EXACTLY the default request of its message, prefixed with the field name (all of its
    entries are entries of the request).  So a required message field is populated iff the default
    request of its message is non-empty (`required_message_unpopulated_counterexample` is the other case). -/
theorem request_has_required (env : Env) (fuel : Nat) (m : Msg) (pre : List (List Char))
    (es : List Entry) (h : requestObject env (fuel + 1) m pre = .ok es)
    (f : Field) (hf : f ∈ m.fields) (hreq : f.required = true)
    (hone : f.oneof = none ∨ f.proto3Optional = true) :
    (∀ t, f.kind = .prim t → ⟨pre ++ [f.name], primMockValue f t⟩ ∈ es) ∧
    (∀ vs v, f.kind = .enum vs → vs.getLast? = some v →
        ⟨pre ++ [f.name], if f.repeated then .many [.str v] else .one (.str v)⟩ ∈ es) ∧
    (∀ tn sub, f.kind = .msg tn → env.get tn = some sub →
        ∃ ses, requestObject env fuel sub (pre ++ [f.name]) = .ok ses ∧ (∀ e ∈ ses, e ∈ es) ∧
          (∀ e ∈ ses, ∃ tail, e.path = pre ++ f.name :: tail)) := by
  have hmem : f ∈ requestFields m := by
    unfold requestFields requiredNonOneof
    apply List.mem_append_right
    rcases hone with hone | hone <;> simp [List.mem_filter, hf, hreq, hone]
  obtain ⟨hp, he, hm⟩ := request_has_field h hmem
  refine ⟨hp, he, fun tn sub hk hsub => ?_⟩
  obtain ⟨ses, hs, hin⟩ := hm tn sub hk hsub
  refine ⟨ses, hs, hin, fun e he => ?_⟩
  obtain ⟨p, _, ep⟩ := entry_paths_required env fuel sub _ ses hs e he
  exact ⟨p, by rw [ep]; simp⟩

example : (requestObject [("Book".toList, ⟨[⟨"pages".toList, .prim .int, false, true, none, false⟩]⟩)] 5
    ⟨[⟨"book".toList, .msg "Book".toList, false, true, none, false⟩]⟩ []).toOption
    = some [⟨["book".toList, "pages".toList], .one (.int 528)⟩] := by
  simp -index only [String.toList_ofList]
  decide +kernel

/-- a REQUIRED message-typed field whose message has no required field and no oneof contributes
    nothing: the default request leaves the required field unset (replayed; known finding). -/
theorem required_message_unpopulated_counterexample :
    (requestObject [("Book".toList, ⟨[⟨"title".toList, .prim .str, false, false, none, false⟩]⟩)] 5
      ⟨[⟨"book".toList, .msg "Book".toList, false, true, none, false⟩]⟩ []).toOption = some [] := by
  simp -index only [String.toList_ofList]
  decide +kernel

/-- a oneof whose first member is such a message gets no member at all (replayed; known finding). -/
theorem oneof_first_member_message_unpopulated_counterexample :
    (requestObject [("Book".toList, ⟨[⟨"title".toList, .prim .str, false, false, none, false⟩]⟩)] 5
      ⟨[⟨"book".toList, .msg "Book".toList, false, false, some "kind".toList, false⟩,
        ⟨"isbn".toList, .prim .str, false, false, some "kind".toList, false⟩]⟩ []).toOption = some [] := by
  simp -index only [String.toList_ofList]
  decide +kernel

/-- regression (fix 1704548; before it the result was `[]`): a REQUIRED proto3-`optional` field — which sits
    in a synthetic oneof — is populated with its mock value. -/
theorem required_proto3_optional_populated :
    (requestObject [] 5 ⟨[⟨"etag".toList, .prim .str, false, true, some "_etag".toList, true⟩]⟩ []).toOption
      = some [⟨["etag".toList], .one (.str "etag_value".toList)⟩] := by
  simp -index only [String.toList_ofList]
  decide +kernel

/-- `request_has_every_required_path`: whenever default request construction returns (on acyclic types it does:
    `request_object_terminates`), EVERY required leaf path of the request type — through required message fields
    and first oneof members, at any depth, however often a message type is used — has an entry in the generated
    request, under exactly that dotted path.  (A `visited`-list shared by the whole traversal would break this at
    the second use of a type: `second_use_of_a_type_is_populated` is the smallest such request.) -/
theorem request_has_every_required_path (env : Env) (m : Msg) (p : List (List Char)) (hp : ReqPath env m p) :
    ∀ (fuel : Nat) (pre : List (List Char)) (es : List Entry), requestObject env fuel m pre = .ok es →
      ∃ e ∈ es, e.path = pre ++ p := by
  -- in every case the request was built, so the budget was `n + 1`
  induction hp with (intro fuel pre es h; obtain _ | n := fuel; cases h)
  | prim m f t hf hk => exact ⟨_, (request_has_field h hf).1 t hk, rfl⟩
  | enum m f vs v hf hk hv => exact ⟨_, (request_has_field h hf).2.1 vs v hk hv, rfl⟩
  | step m f tn sub p hf hk hsub _ ih =>
    obtain ⟨ses, hs, hin⟩ := (request_has_field h hf).2.2 tn sub hk hsub
    obtain ⟨e, he, hpath⟩ := ih n (pre ++ [f.name]) ses hs
    exact ⟨e, hin e he, by rw [hpath]; simp⟩

/-- `MoveBookRequest{name, Shelf source_shelf, Shelf destination_shelf}` (all REQUIRED, `Shelf.name` REQUIRED) -/
def shelfEnv : Env := [("Shelf".toList, ⟨[⟨"name".toList, .prim .str, false, true, none, false⟩]⟩)]
def moveBookMsg : Msg := ⟨[⟨"name".toList, .prim .str, false, true, none, false⟩,
  ⟨"source_shelf".toList, .msg "Shelf".toList, false, true, none, false⟩,
  ⟨"destination_shelf".toList, .msg "Shelf".toList, false, true, none, false⟩]⟩

example : ReqPath shelfEnv moveBookMsg ["destination_shelf".toList, "name".toList] :=
  .step _ ⟨"destination_shelf".toList, .msg "Shelf".toList, false, true, none, false⟩ "Shelf".toList
    ⟨[⟨"name".toList, .prim .str, false, true, none, false⟩]⟩ _
    (by simp -index only [moveBookMsg, String.toList_ofList]; decide +kernel) rfl
    (by simp -index only [shelfEnv, String.toList_ofList]; decide +kernel)
    (.prim _ ⟨"name".toList, .prim .str, false, true, none, false⟩ .str
      (by simp -index only [String.toList_ofList]; decide +kernel) rfl)

/-- the second sibling of the same message type is built like the first -/
theorem second_use_of_a_type_is_populated :
    (requestObject shelfEnv 5 moveBookMsg []).toOption = some [
      ⟨["name".toList], .one (.str "name_value".toList)⟩,
      ⟨["source_shelf".toList, "name".toList], .one (.str "name_value".toList)⟩,
      ⟨["destination_shelf".toList, "name".toList], .one (.str "name_value".toList)⟩] := by
  simp -index only [shelfEnv, moveBookMsg, String.toList_ofList]
  decide +kernel

/-- mock values are never a type's default value (so a populated scalar is visible on the wire):
    for a field name made of non-NUL characters every primitive mock is truthy. -/
theorem mock_values_non_default (name : List Char) (t : PyType) (suffix : Nat)
    (hne : name ≠ []) (hch : ∀ c ∈ name, c.toNat ≠ 0) :
    (primitiveMock name t suffix).truthy = true := by
  obtain ⟨c, cs, rfl⟩ := List.exists_cons_of_ne_nil hne
  have hsum : ordSum (c :: cs) + suffix ≠ 0 :=
    Nat.ne_of_gt (Nat.add_pos_left (Nat.add_pos_left (Nat.pos_of_ne_zero (hch c List.mem_cons_self)) _) _)
  cases t with
  | bool => rfl
  | str =>
    rw [primitiveMock]
    split
    · unfold anyTypeUrl
      rw [String.toList_ofList]
      rfl
    · rfl
  | bytes => rfl
  | int => exact bne_iff_ne.mpr hsum
  | float => exact bne_iff_ne.mpr hsum

example : (primitiveMock "pages".toList .int 0) = .int 528 := by
  simp -index only [String.toList_ofList]
  decide +kernel

/-- no cycle of message-typed request fields: a rank on message names that strictly decreases along every
    message-typed request field (required non-oneof field, or first member of a real oneof). -/
def Ranked (env : Env) (rank : List Char → Nat) : Prop :=
  ∀ n m, env.get n = some m → ∀ f ∈ requestFields m, ∀ tn, f.kind = .msg tn → rank tn < rank n

section Aux

/-- on a concrete API `Ranked` is checked by evaluation: one pass over the request fields of every message -/
theorem ranked_of_all (env : Env) (rank : List Char → Nat)
    (h : (env.all fun p => (requestFields p.2).all fun f =>
      match f.kind with | .msg tn => decide (rank tn < rank p.1) | _ => true) = true) : Ranked env rank := by
  intro n m hget f hf tn hk
  obtain ⟨p, hp, rfl⟩ := Option.map_eq_some_iff.mp hget
  have := List.all_eq_true.mp (List.all_eq_true.mp h p (List.mem_of_find?_eq_some hp)) f hf
  have hn : p.1 = n := eq_of_beq (List.find?_some (p := fun x : List Char × Msg => x.1 == n) hp)
  rw [hk, hn] at this
  exact of_decide_eq_true this

end Aux

/-- `request_object_terminates`: if the message graph restricted to request fields has no cycle
    (`Ranked`), `generate_request_object` on a message of the API never exhausts a recursion budget
    larger than the message's rank. -/
theorem request_object_terminates (env : Env) (rank : List Char → Nat) (hr : Ranked env rank) :
    ∀ (fuel : Nat) (n : List Char) (m : Msg) (pre : List (List Char)),
      env.get n = some m → rank n < fuel → requestObject env fuel m pre ≠ .error .recursion := by
  intro fuel
  induction fuel with
  | zero => intro n m pre _ h; omega
  | succ k ih =>
    intro n m pre hget hlt h
    obtain ⟨f, hf, he⟩ := fieldsEntries_error env _ pre _ _ h
    -- only the recursive call of a message-typed field can have run out of budget
    unfold fieldEntries at he
    split at he
    · cases he
    · split at he <;> cases he
    · next tn hk =>
      split at he
      · cases he
      · next sub hsub => exact ih tn sub _ hsub (by have := hr n m hget f hf tn hk; omega) he

example : Ranked [("A".toList, ⟨[⟨"b".toList, .msg "B".toList, false, true, none, false⟩]⟩),
                  ("B".toList, ⟨[⟨"x".toList, .prim .int, false, true, none, false⟩]⟩)]
    (fun n => if n = "A".toList then 1 else 0) := by
  refine ranked_of_all _ _ ?_
  simp -index only [String.toList_ofList]
  decide +kernel

/-- a `Node` whose required field `child` is a `Node` -/
def recEnv : Env := [("Node".toList, ⟨[⟨"child".toList, .msg "Node".toList, false, true, none, false⟩]⟩)]
def recMsg : Msg := ⟨[⟨"child".toList, .msg "Node".toList, false, true, none, false⟩]⟩

/-- WITHOUT the hypothesis (§9-F6): on a message whose required field is of its own type the recursion
    never ends, whatever the budget — the real function raises RecursionError and the generator
    produces no response at all (replayed on the real generator; known finding). -/
theorem request_object_diverges_counterexample :
    ∀ fuel pre, requestObject recEnv fuel recMsg pre = .error .recursion := by
  have hget : recEnv.get "Node".toList = some recMsg := by
    simp -index only [recEnv, recMsg, String.toList_ofList]
    decide +kernel
  have hf : requestFields recMsg = [⟨"child".toList, .msg "Node".toList, false, true, none, false⟩] := by
    simp -index only [recMsg, String.toList_ofList]
    decide +kernel
  intro fuel
  induction fuel with
  | zero => intro pre; rfl
  | succ n ih =>
    intro pre
    simp only [requestObject, hf, fieldsEntries, fieldEntries, hget, ih]

section Aux

theorem groups_add_keys (g : Groups) (b : List Char) (a) :
    (g.add b a).map (·.1) = if b ∈ g.map (·.1) then g.map (·.1) else g.map (·.1) ++ [b] := by
  fun_induction Groups.add g b a with
  | case1 => rfl
  | case2 as r => simp
  | case3 k as r h ih =>
    simp only [List.map_cons, ih, List.mem_cons, Ne.symm h, false_or]
    split <;> rfl

theorem groups_add_nodup (g : Groups) (b : List Char) (a) (h : (g.map (·.1)).Nodup) :
    ((g.add b a).map (·.1)).Nodup := by
  rw [groups_add_keys]
  split
  · exact h
  · next hb =>
    exact List.nodup_append.mpr ⟨h, List.pairwise_singleton .., fun x hx y hy e => hb (List.mem_singleton.mp hy ▸ e ▸ hx)⟩

theorem groupEntries_nodup : ∀ (es : List Entry) (g g' : Groups), (g.map (·.1)).Nodup →
    groupEntries es g = .ok g' → (g'.map (·.1)).Nodup := by
  intro es g
  fun_induction groupEntries es g with
  | case1 g => intro g' h hok; cases hok; exact h
  | case2 => nofun
  | case3 => nofun
  | case4 e es g b hb hany ih => exact fun g' h => ih g' (groups_add_nodup g _ _ h)
  | case5 e es g b sub hb hsub ih => exact fun g' h => ih g' (groups_add_nodup g _ _ h)

theorem buildT_base (b : List Char) (as) : (buildT b as).base = b := by
  unfold buildT
  split <;> rfl

end Aux

/-- the transformed request has one block per top-level field: the keyword arguments of
    `request = <Type>(base=…, …)` in the rendered sample are pairwise distinct. -/
theorem transform_bases_nodup (es : List Entry) (ts : List TReq) (h : transform es = .ok ts) :
    (ts.map (·.base)).Nodup := by
  rw [transform] at h
  cases hg : groupEntries es [] with
  | error e => rw [hg] at h; cases h
  | ok g =>
    rw [hg] at h
    cases h
    rw [List.map_map, List.map_congr_left (g := (·.1)) fun x _ => buildT_base x.1 x.2]
    exact groupEntries_nodup es [] g List.nodup_nil hg

example : (transform [⟨["a".toList], .one (.int 97)⟩, ⟨["book".toList, "pages".toList], .one (.int 528)⟩,
                     ⟨["book".toList, "isbn".toList], .one (.str "x".toList)⟩]).toOption =
    some [⟨"a".toList, .single (.one (.int 97))⟩,
         ⟨"book".toList, .body [(["pages".toList], .one (.int 528)), (["isbn".toList], .one (.str "x".toList))]⟩] := by
  simp -index only [String.toList_ofList]
  decide +kernel

/-- `ids_are_tags_when_unique`: when no two specs share a region tag, every sample id — hence the
    START/END tag written into the file and (through `to_snake_case`) the file name — is the region tag
    recorded in the metadata; no hash suffix appears. -/
theorem ids_are_tags_when_unique (hash : Spec → List Char) (all : List Spec)
    (h : (all.map (·.regionTag)).Nodup) (sp : Spec) (hm : sp ∈ all) :
    sampleId hash all sp = sp.regionTag := by
  rw [sampleId, Keyed.filter_eq_of_key (·.regionTag) _ sp all h hm fun _ => beq_iff_eq]
  rfl

/-- combined with `region_tags_unique`: under the no-underscore / distinct-names hypotheses the ids of
    all generated specs are their region tags. -/
theorem sample_ids_equal_region_tags (hash : Spec → List Char) (v : List Char) (o : Opts) (svcs : List Service)
    (hv : NoUs v)
    (hnames : ∀ s ∈ svcs, NoUs s.shortname ∧ NoUs s.name ∧ ∀ r ∈ s.rpcs, NoUs r.name)
    (hs : (svcs.map (·.name)).Nodup)
    (hr : ∀ s ∈ svcs, (s.rpcs.map (·.name)).Nodup) :
    ∀ sp ∈ sampleSpecs v o svcs, sampleId hash (sampleSpecs v o svcs) sp = sp.regionTag :=
  fun sp hm => ids_are_tags_when_unique hash _ (region_tags_unique v o svcs hv hnames hs hr) sp hm

/-- on the colliding names the id carries the hash suffix: the file's tag differs from `regionTag`. -/
theorem sample_id_collision_counterexample :
    let specs := sampleSpecs "v1".toList ⟨true, false⟩
          [⟨"A_B".toList, "lib".toList, [⟨"C".toList, false⟩]⟩, ⟨"A".toList, "lib".toList, [⟨"B_C".toList, false⟩]⟩]
    ∀ sp ∈ specs, sampleId (fun _ => "8cb92ea9".toList) specs sp = sp.regionTag ++ "_8cb92ea9".toList := by
  simp -index only [String.toList_ofList]
  decide +kernel

/-- `called_method_matches_client` (unconditional since fix cb7ea26): for every RPC that is not hidden by
    selective generation — keyword names included — the method the sample calls is the method the metadata
    names and the client defines. -/
theorem called_method_matches_client (snake : List Char → List Char) (cmn : List Char → Bool → List Char)
    (rpc : List Char) :
    calledMethod snake cmn rpc false = metadataMethod snake cmn rpc false := rfl

/-- regression (§9-F8, fix cb7ea26; before it the sample called `client.import`): for `Import` both the call
    and the client method are `import_`, through the translated `to_snake_case` / `client_method_name`. -/
theorem keyword_rpc_called_method :
    calledMethod Pinned.Funcs.to_snake_case Pinned.Funcs.client_method_name "Import".toList false = "import_".toList ∧
    metadataMethod Pinned.Funcs.to_snake_case Pinned.Funcs.client_method_name "Import".toList false = "import_".toList := by
  have cmn : Pinned.Funcs.client_method_name "Import".toList false = "Import_".toList := by
    simp -index only [Pinned.Funcs.client_method_name, PyRt.strIn, Tables.keywords_eq, String.toList_ofList]
    decide +kernel
  -- `to_snake_case` by its four passes (`Lemmas.Snake.scan`), not by the regular-expression engine
  rw [called_method_matches_client, and_self, metadataMethod, cmn, ← Lemmas.Snake.snake_eq_translated,
    Lemmas.Snake.snake_eq_scan]
  simp -index only [String.toList_ofList]
  decide +kernel

/-- hidden (internal) methods are still called as `_<snake(rpc)>`; for non-keyword names that is the
    client's method too (the keyword + internal combination is the remaining gap of `render_method_name`). -/
example : calledMethod Pinned.Funcs.to_snake_case Pinned.Funcs.client_method_name "GetBook".toList true =
    metadataMethod Pinned.Funcs.to_snake_case Pinned.Funcs.client_method_name "GetBook".toList true := by
  have cmn : Pinned.Funcs.client_method_name "GetBook".toList true = "_GetBook".toList := by
    simp -index only [Pinned.Funcs.client_method_name, PyRt.strIn, Tables.keywords_eq, String.toList_ofList]
    decide +kernel
  rw [calledMethod, metadataMethod, cmn, if_pos rfl, ← Lemmas.Snake.snake_eq_translated]
  simp -index only [Lemmas.Snake.snake_eq_scan, us, String.toList_ofList]
  decide +kernel

example : sampleFile Pinned.Funcs.to_snake_case "lib_v1_generated_Library_GetIAMPolicy2_sync".toList
    = "lib_v1_generated_library_get_iam_policy2_sync.py".toList := by
  rw [sampleFile, ← Lemmas.Snake.snake_eq_translated, Lemmas.Snake.snake_eq_scan]
  simp -index only [String.toList_ofList]
  decide +kernel

/-- `metadata_params_shape`: the parameter list is `request` + the flattened fields (or only `requests`
    for client streaming) followed by exactly `retry, timeout, metadata`. -/
theorem metadata_params_shape (cs : Bool) (it : List Char) (fl : List Param) :
    (metadataParams cs it fl).map (·.name) =
      (if cs then ["requests".toList] else "request".toList :: fl.map (·.name)) ++
        ["retry".toList, "timeout".toList, "metadata".toList] := by
  rw [metadataParams, tailParams]
  cases cs <;> simp only [List.map_append, List.map_cons, List.map_nil, if_true, Bool.false_eq_true, if_false]

/-- `metadata_flattened_names_are_leaf_names`: for a method signature with dotted paths the metadata lists, after
    `request`, the LEAF field names (reserved words suffixed) in signature order — the names of the emitted client
    method's keyword parameters — then `retry, timeout, metadata`. -/
theorem metadata_flattened_names_are_leaf_names (reserved : List Char → Bool) (it : List Char)
    (sig : List (List (List Char) × List Char)) :
    (metadataParams false it (flattenedParams reserved sig)).map (·.name) =
      "request".toList :: sig.map (fun e => flattenedName reserved e.1) ++
        ["retry".toList, "timeout".toList, "metadata".toList] := by
  rw [metadata_params_shape, if_neg Bool.false_ne_true, flattenedParams, List.map_map]
  rfl

section Aux

theorem suffixed_no_dot (reserved : List Char → Bool) (seg : List Char) (h : '.' ∉ seg) : '.' ∉ suffixed reserved seg := by
  unfold suffixed
  split
  · simp [h]
  · exact h

end Aux

/-- the leaf name is never the key once the path is dotted (field names contain no `.`): a metadata entry that wrote the
    mapping key would name a parameter the client method does not have; for a top-level entry the two coincide -/
theorem flattened_name_ne_key (reserved : List Char → Bool) (a b : List Char) (rest : List (List Char))
    (hnd : ∀ seg ∈ a :: b :: rest, '.' ∉ seg) :
    flattenedName reserved (a :: b :: rest) ≠ flattenedKey reserved (a :: b :: rest) := by
  intro h
  have hk : '.' ∈ flattenedKey reserved (a :: b :: rest) := by simp [flattenedKey, joinDots]
  have hl : (a :: b :: rest).getLast?.getD [] ∈ a :: b :: rest := by
    exact List.getLast_mem (List.cons_ne_nil _ _)
  exact suffixed_no_dot reserved _ (hnd _ hl) (h ▸ hk :)

theorem flattened_name_eq_key_top_level (reserved : List Char → Bool) (a : List Char) :
    flattenedName reserved [a] = flattenedKey reserved [a] := rfl

example : let res := fun s => decide (s ∈ GapicModel.Pinned.reservedNames.map String.toList)
    (flattenedKey res ["book".toList, "class".toList] = "book.class_".toList ∧
     flattenedName res ["book".toList, "class".toList] = "class_".toList ∧
     flattenedKey res ["folio".toList, "next".toList, "note".toList] = "folio.next_.note".toList ∧
     flattenedName res ["folio".toList, "next".toList, "note".toList] = "note".toList) := by
  simp -index only [Tables.reserved_eq, String.toList_ofList]
  decide +kernel

section Aux

theorem ne_wrapped (pre t : List Char) {suf : List Char} (h : suf ≠ []) : t ≠ pre ++ t ++ suf := fun e => by
  have := congrArg List.length e
  rw [List.length_append, List.length_append] at this
  have := List.length_pos_iff.mpr h
  omega

theorem streamShaped_metadataResultType (ss : Bool) (t : List Char) :
    streamShaped t (metadataResultType false ss t) = ss := by
  cases ss
  · exact beq_eq_false_iff_ne.mpr fun e => ne_wrapped _ t (by decide) (Option.some.inj e)
  · exact beq_self_eq_true _

theorem yieldsStream_callingForm (m : MethodShape) :
    (callingForm m).yieldsStream = (!m.lro && !m.paged && m.serverStreaming) := by
  rcases m with ⟨a, b, c, d⟩
  revert a b c d
  decide +kernel

end Aux

/-- `metadata_result_type_stream_iff`: for an RPC that is neither LRO nor paginated and is not void, the
    metadata's `resultType` is `Iterable[<output>]` exactly when the calling form is server-streaming or
    bidi-streaming — the two forms whose emitted client method returns a response stream and whose sample
    iterates `for response in stream`; for plain and client-streaming calls it is the bare output type. -/
theorem metadata_result_type_stream_iff (m : MethodShape) (t : List Char) (hl : m.lro = false) (hp : m.paged = false) :
    streamShaped t (metadataResultType false m.serverStreaming t) = (callingForm m).yieldsStream := by
  rw [streamShaped_metadataResultType, yieldsStream_callingForm, hl, hp]
  rfl

example : (⟨false, false, true, true⟩ : MethodShape).lro = false ∧ (⟨false, false, true, true⟩ : MethodShape).paged = false ∧
    metadataResultType false true "acme.chat_v1.types.Reply".toList = some "Iterable[acme.chat_v1.types.Reply]".toList ∧
    callingForm ⟨false, false, true, true⟩ = .requestStreamingBidi := by
  simp -index only [metadataResultType, String.toList_ofList]
  decide +kernel

/-- a void RPC has no result type, whatever its streaming shape -/
theorem metadata_result_type_void (ss : Bool) (t : List Char) : metadataResultType true ss t = none := rfl

/-- LRO and paginated calls never yield a stream (their result types are the operation / pager classes) -/
theorem lro_paged_not_stream (m : MethodShape) (h : m.lro = true ∨ m.paged = true) : (callingForm m).yieldsStream = false := by
  rw [yieldsStream_callingForm]
  rcases h with h | h <;> simp [h]

example : (⟨false, true, false, false⟩ : MethodShape).lro = true ∨ (⟨false, true, false, false⟩ : MethodShape).paged = true := by decide

section Aux

theorem upd_any_service (svc rpc : List Char) (f : IxEntry → IxEntry) (hf : ∀ e, (f e).service = e.service) (q : List Char)
    (ix : Index) : (Index.upd svc rpc f ix).any (fun e => decide (e.service = q)) = ix.any (fun e => decide (e.service = q)) := by
  fun_induction Index.upd svc rpc f ix with
  | case1 => rfl
  | case2 e es h => rw [List.any_cons, List.any_cons, hf]
  | case3 e es h ih => rw [List.any_cons, List.any_cons, ih]

theorem upd_find (svc rpc : List Char) (f : IxEntry → IxEntry)
    (hf : ∀ e, (f e).service = e.service ∧ (f e).rpc = e.rpc) (svc2 rpc2 : List Char) (ix : Index) :
    (Index.upd svc rpc f ix).find svc2 rpc2 =
      (ix.find svc2 rpc2).map fun e => if svc2 = svc ∧ rpc2 = rpc then f e else e := by
  simp only [Index.find]
  fun_induction Index.upd svc rpc f ix with
  | case1 => rfl
  | case2 e es h =>
    rw [List.find?_cons, List.find?_cons, (hf e).1, (hf e).2]
    by_cases h2 : e.service = svc2 ∧ e.rpc = rpc2
    · rw [decide_eq_true h2, Option.map_some, if_pos ⟨h2.1 ▸ h.1, h2.2 ▸ h.2⟩]
    · have : ¬ (svc2 = svc ∧ rpc2 = rpc) := fun h3 => h2 ⟨h.1.trans h3.1.symm, h.2.trans h3.2.symm⟩
      simp only [decide_eq_false h2, if_neg this, Option.map_id']
  | case3 e es h ih =>
    rw [List.find?_cons, List.find?_cons, ih]
    by_cases h2 : e.service = svc2 ∧ e.rpc = rpc2
    · have : ¬ (svc2 = svc ∧ rpc2 = rpc) := fun h3 => h ⟨h2.1.trans h3.1, h2.2.trans h3.2⟩
      rw [decide_eq_true h2, Option.map_some, if_neg this]
    · rw [decide_eq_false h2]

/-- updating the entry of one RPC with a function that keeps the keys: the look-up of that RPC sees `f`, no other look-up
sees anything -/
theorem locate_upd (svc rpc : List Char) (f : IxEntry → IxEntry)
    (hf : ∀ e, (f e).service = e.service ∧ (f e).rpc = e.rpc) (svc2 rpc2 : List Char) (ix : Index) :
    (Index.upd svc rpc f ix).locate svc2 rpc2 =
      (ix.locate svc2 rpc2).map fun e => if svc2 = svc ∧ rpc2 = rpc then f e else e := by
  rw [Index.locate, Index.locate, upd_any_service _ _ _ (fun e => (hf e).1), upd_find _ _ _ hf]
  split
  · cases ix.find svc2 rpc2 <;> rfl
  · rfl

theorem put_keys (s : Snip) (e : IxEntry) : (e.put s).service = e.service ∧ (e.put s).rpc = e.rpc := by
  unfold IxEntry.put
  split <;> simp

/-- `get_snippet` after `add_snippet(s)`: the slot of `s` — its RPC, the flavour its `async` flag names — holds `s`,
every other slot what it held -/
theorem getSnippet_addSnippet {ix ix2 : Index} {s : Snip} (h : ix.addSnippet s = .ok ix2) (svc rpc : List Char) (b : Bool) :
    ix2.getSnippet svc rpc b =
      if (svc = s.service ∧ rpc = s.rpc) ∧ b = !s.isAsync then .ok (some s) else ix.getSnippet svc rpc b := by
  rw [Index.addSnippet] at h
  cases hl : ix.locate s.service s.rpc with
  | error x => rw [hl] at h; cases h
  | ok e =>
    rw [hl] at h
    cases h
    rw [Index.getSnippet, Index.getSnippet, locate_upd _ _ _ (put_keys s)]
    by_cases hk : svc = s.service ∧ rpc = s.rpc
    · rw [hk.1, hk.2, hl]
      cases b <;> cases hs : s.isAsync <;> simp [Except.map, IxEntry.put, hs]
    · simp only [hk, false_and, if_false]
      cases ix.locate svc rpc <;> rfl

end Aux

/-- `get_add_own_flavour`: after `add_snippet(s)`, `get_snippet(service, rpc, sync = not s.async)` returns `s` — for
    EVERY region tag (`…_async_internal` of a selectively-internal RPC included): the slot is chosen by the
    metadata's `async` flag alone. -/
theorem get_add_own_flavour (ix ix2 : Index) (s : Snip) (h : ix.addSnippet s = .ok ix2) :
    ix2.getSnippet s.service s.rpc (!s.isAsync) = .ok (some s) := by
  rw [getSnippet_addSnippet h, if_pos ⟨⟨rfl, rfl⟩, rfl⟩]

/-- the other flavour's slot of the same RPC is left alone (the asyncio snippet never replaces the sync one) -/
theorem add_keeps_other_flavour (ix ix2 : Index) (s : Snip) (h : ix.addSnippet s = .ok ix2) :
    ix2.getSnippet s.service s.rpc s.isAsync = ix.getSnippet s.service s.rpc s.isAsync := by
  rw [getSnippet_addSnippet h, if_neg fun h => absurd h.2 (by cases s.isAsync <;> decide)]

/-- and so are the slots of every other RPC -/
theorem add_keeps_other_methods (ix ix2 : Index) (s : Snip) (h : ix.addSnippet s = .ok ix2)
    (svc rpc : List Char) (hne : ¬ (svc = s.service ∧ rpc = s.rpc)) (b : Bool) :
    ix2.getSnippet svc rpc b = ix.getSnippet svc rpc b := by
  rw [getSnippet_addSnippet h, if_neg fun h => hne h.1]

def ixA : Snip := ⟨"Things".toList, "RenameThing".toList, true, "thing_v1_generated_Things_RenameThing_async_internal".toList⟩
def ixB : Snip := ⟨"Things".toList, "RenameThing".toList, false, "thing_v1_generated_Things_RenameThing_sync_internal".toList⟩
def ixInit : Index := Index.init [("Things".toList, "GetThing".toList), ("Things".toList, "RenameThing".toList)]

/-- the asyncio snippet of an internal RPC (tag `…_async_internal`) is what the asyncio client's docstring gets,
    the sync client's docstring gets the sync one — in either order of insertion -/
theorem internal_async_snippet_filed_async :
    ((ixInit.addAll [ixA, ixB]).toOption.map fun ix2 =>
      ((ix2.getSnippet ixA.service ixA.rpc false).toOption, (ix2.getSnippet ixA.service ixA.rpc true).toOption))
      = some (some (some ixA), some (some ixB)) ∧
    ((ixInit.addAll [ixB, ixA]).toOption.map fun ix2 =>
      ((ix2.getSnippet ixA.service ixA.rpc false).toOption, (ix2.getSnippet ixA.service ixA.rpc true).toOption))
      = some (some (some ixA), some (some ixB)) := by
  simp -index only [ixInit, ixA, ixB, String.toList_ofList]
  decide +kernel

example : ∃ ix2, ixInit.addSnippet ixA = .ok ix2 := by
  simp -index only [ixInit, ixA, String.toList_ofList]
  exact ⟨_, rfl⟩

end GapicModel.Props.C14
