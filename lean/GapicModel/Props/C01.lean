import GapicModel.Model.Transports
import GapicModel.Model.Imports
import GapicModel.Lemmas.C01Imports
/-
C01 — the package exposes one synchronous client per service (plus an asyncio client when gRPC is
requested) offering exactly the requested transports, gRPC being the default when requested and REST
otherwise.  (The clause "every emitted .py parses and the package imports" is decided by execution on
every case of the C01 check: CPython is outside any model stated here.)

Second part (`Model/Imports.lean`): the import statements BETWEEN the emitted modules of a service package name
emitted modules only — for every option list over {grpc, rest}, every API shape, every service — provided the
async-REST experiment is not switched on without gRPC (`AsyncNeedsGrpc`; the excluded point is a defect of the
unchanged generator, findings/C01.json `import-error:async-rest-without-grpc`, and the hypothesis is necessary:
`async_rest_without_grpc_breaks_imports`); the registry's classes are the ones `client.py` imports; the client names
the package `__init__` asks for are bound by the service package; `utils.empty` is characterised line by line.
-/
namespace GapicModel.Props.C01
open GapicModel.Model.Emit GapicModel.Model.Transports GapicModel.Model.Imports GapicModel.Lemmas.C01Imports

/-- supported option sets: `transport` lists only `grpc` and/or `rest` -/
def Supported (o : Opts) : Prop := ∀ t ∈ o.transport, t = grpc ∨ t = rest

/-- **The registry holds exactly the requested transports**: grpc ⇒ `grpc`, `grpc_asyncio`;
rest ⇒ `rest` (and `rest_asyncio` only with the async-REST experiment); nothing else. -/
theorem registry_exact (o : Opts) (l : Str) :
    l ∈ registry o ↔
      (grpc ∈ o.transport ∧ (l = grpc ∨ l = grpcAsyncio)) ∨
      (rest ∈ o.transport ∧ (l = rest ∨ (o.restAsync = true ∧ l = restAsyncio))) := by
  by_cases hg : grpc ∈ o.transport <;> by_cases hr : rest ∈ o.transport <;> cases ha : o.restAsync <;>
    simp [registry, hg, hr, ha, or_assoc]

/-- **gRPC is the default when requested** -/
theorem default_grpc_when_requested (o : Opts) (h : grpc ∈ o.transport) : defaultTransport o = some grpc := by
  simp [defaultTransport, registry, h]

/-- **REST is the default otherwise** -/
theorem default_rest_otherwise (o : Opts) (hg : grpc ∉ o.transport) (hr : rest ∈ o.transport) :
    defaultTransport o = some rest := by
  simp [defaultTransport, registry, hg, hr]

/-- no transport requested from {grpc, rest}: the client has an empty registry (no default at all) -/
theorem no_default_without_transport (o : Opts) (hg : grpc ∉ o.transport) (hr : rest ∉ o.transport) :
    registry o = [] := by
  simp [registry, hg, hr]

example : Supported ⟨[grpc, rest], false, false, false⟩ := by
  intro t ht
  simp at ht
  rcases ht with h | h <;> simp [h]

example : registry ⟨[rest], false, false, false⟩ = [rest] ∧ defaultTransport ⟨[rest, grpc], false, false, false⟩ = some grpc := by decide

section Aux

/-- under `Supported`, "some requested transport is a substring of the template name" only depends on
which of the two transports are requested -/
theorem any_supported_list (l : List Str) (hs : ∀ t ∈ l, t = grpc ∨ t = rest) (f : Str → Bool) :
    l.any f = ((l.contains grpc && f grpc) || (l.contains rest && f rest)) := by
  rw [Bool.eq_iff_iff]
  simp only [List.any_eq_true, Bool.or_eq_true, Bool.and_eq_true, List.contains_iff_mem]
  constructor
  · rintro ⟨t, ht, hf⟩
    rcases hs t ht with rfl | rfl
    · exact .inl ⟨ht, hf⟩
    · exact .inr ⟨ht, hf⟩
  · rintro (h | h) <;> exact ⟨_, h⟩

theorem supported_optsOf (g r a : Bool) : Supported (optsOf g r a) := fun t ht => by
  cases g <;> cases r <;> simp [optsOf] at ht <;> simp [ht]

/-- when only `grpc` / `rest` are requested, or the template is not one of `transports/`, the gate reads the options only
through (grpc listed, rest listed, async REST) -/
theorem gate_optsOf (o : Opts) (tname : Str)
    (hs : Supported o ∨ containsSub ['t','r','a','n','s','p','o','r','t'] tname = false) :
    serviceGate tname o = serviceGate tname (optsOf (o.transport.contains grpc) (o.transport.contains rest) o.restAsync) := by
  obtain ⟨h1, h2, h3⟩ := optsOf_reads (o.transport.contains grpc) (o.transport.contains rest) o.restAsync
  unfold serviceGate isDesiredTransport
  rcases hs with hs | hs
  · rw [List.any_append, List.any_append, any_supported_list _ hs, any_supported_list _ (supported_optsOf _ _ _)]
    -- `serviceGate` spells the two labels as literals: unfold the constants so that `h1 h2 h3` match
    simp only [grpc, rest] at h1 h2 h3 ⊢
    rw [h1, h2, h3]
  · simp only [grpc, rest] at h1 h2 h3 ⊢
    simp only [hs, h1, h2, h3, Bool.false_and]

/-- which modules are emitted, for every combination of requested transports: one evaluation per template -/
theorem gate_table (m : SMod) (g r a paged : Bool) : emitted (optsOf g r a) paged m = emittedT g r a paged m := by
  revert g r a paged
  cases m <;> decide +kernel

/-- the closed form of `emitted`; a module whose template name does not hold `transport` needs no `Supported` -/
theorem emitted_eq (o : Opts) (paged : Bool) (m : SMod)
    (hs : Supported o ∨ containsSub ['t','r','a','n','s','p','o','r','t'] m.template = false) :
    emitted o paged m = emittedT (o.transport.contains grpc) (o.transport.contains rest) o.restAsync paged m := by
  rw [← gate_table]
  have hg := gate_optsOf o m.template hs
  cases m <;> simp only [emitted, hg]

end Aux

/-- **Transport modules are emitted exactly for the requested transports** (default template set):
`grpc.py`, `grpc_asyncio.py` iff grpc is requested; `rest.py`, `rest_base.py` iff rest is requested;
`rest_asyncio.py` iff rest and the async-REST experiment; `base.py`, `__init__.py` always. -/
theorem transport_modules_exact (o : Opts) (hs : Supported o) :
    serviceGate (tpl ['g','r','p','c']) o = o.transport.contains grpc ∧
    serviceGate (tpl grpcAsyncio) o = o.transport.contains grpc ∧
    serviceGate (tpl ['r','e','s','t']) o = o.transport.contains rest ∧
    serviceGate (tpl ['r','e','s','t','_','b','a','s','e']) o = o.transport.contains rest ∧
    serviceGate (tpl restAsyncio) o = (o.transport.contains rest && o.restAsync) ∧
    serviceGate (tpl ['b','a','s','e']) o = true ∧
    serviceGate (tpl ['_','_','i','n','i','t','_','_']) o = true :=
  -- each conjunct is `emitted_eq` for one module, read through the definitions of `emitted`, `SMod.template`, `emittedT`
  -- (`paged` plays no part for the transport modules)
  ⟨emitted_eq o true .grpc (.inl hs), emitted_eq o true .grpcAsyncio (.inl hs), emitted_eq o true .rest (.inl hs),
   emitted_eq o true .restBase (.inl hs), emitted_eq o true .restAsyncio (.inl hs), emitted_eq o true .base (.inl hs),
   emitted_eq o true .tInit (.inl hs)⟩

/-- **One asyncio client module iff gRPC is requested** (or the async-REST experiment): the gate of
`async_client.py.j2`; `client.py.j2` is never gated. -/
theorem async_client_iff (o : Opts) :
    serviceGate ['%', 'n', 'a', 'm', 'e', 's', 'p', 'a', 'c', 'e', '/', '%', 'n', 'a', 'm', 'e', '_', '%', 'v', 'e', 'r', 's', 'i', 'o', 'n', '/', '%', 's', 'u', 'b', '/', 's', 'e', 'r', 'v', 'i', 'c', 'e', 's', '/', '%', 's', 'e', 'r', 'v', 'i', 'c', 'e', '/', 'a', 's', 'y', 'n', 'c', '_', 'c', 'l', 'i', 'e', 'n', 't', '.', 'p', 'y', '.', 'j', '2'] o = hasAsyncClient o ∧
    serviceGate ['%', 'n', 'a', 'm', 'e', 's', 'p', 'a', 'c', 'e', '/', '%', 'n', 'a', 'm', 'e', '_', '%', 'v', 'e', 'r', 's', 'i', 'o', 'n', '/', '%', 's', 'u', 'b', '/', 's', 'e', 'r', 'v', 'i', 'c', 'e', 's', '/', '%', 's', 'e', 'r', 'v', 'i', 'c', 'e', '/', 'c', 'l', 'i', 'e', 'n', 't', '.', 'p', 'y', '.', 'j', '2'] o = true :=
  ⟨emitted_eq o true .asyncClient (.inr (by decide +kernel)), emitted_eq o true .client (.inr (by decide +kernel))⟩

/-- one sync client module per service: `client.py.j2` is rendered once for every service of the view -/
theorem one_client_per_service (o : Opts) (nm : Naming) (view : Path) (services protos : List Str) :
    renderView o nm ['%', 'n', 'a', 'm', 'e', 's', 'p', 'a', 'c', 'e', '/', '%', 'n', 'a', 'm', 'e', '_', '%', 'v', 'e', 'r', 's', 'i', 'o', 'n', '/', '%', 's', 'u', 'b', '/', 's', 'e', 'r', 'v', 'i', 'c', 'e', 's', '/', '%', 's', 'e', 'r', 'v', 'i', 'c', 'e', '/', 'c', 'l', 'i', 'e', 'n', 't', '.', 'p', 'y', '.', 'j', '2']
      (parseTemplate ['%', 'n', 'a', 'm', 'e', 's', 'p', 'a', 'c', 'e', '/', '%', 'n', 'a', 'm', 'e', '_', '%', 'v', 'e', 'r', 's', 'i', 'o', 'n', '/', '%', 's', 'u', 'b', '/', 's', 'e', 'r', 'v', 'i', 'c', 'e', 's', '/', '%', 's', 'e', 'r', 'v', 'i', 'c', 'e', '/', 'c', 'l', 'i', 'e', 'n', 't', '.', 'p', 'y', '.', 'j', '2']) view services protos
    = services.map fun s => getFilename ⟨nm, view, some s, none⟩
      (parseTemplate ['%', 'n', 'a', 'm', 'e', 's', 'p', 'a', 'c', 'e', '/', '%', 'n', 'a', 'm', 'e', '_', '%', 'v', 'e', 'r', 's', 'i', 'o', 'n', '/', '%', 's', 'u', 'b', '/', 's', 'e', 'r', 'v', 'i', 'c', 'e', 's', '/', '%', 's', 'e', 'r', 'v', 'i', 'c', 'e', '/', 'c', 'l', 'i', 'e', 'n', 't', '.', 'p', 'y', '.', 'j', '2']) := by
  obtain ⟨-, hp, hsv⟩ := template_vars .client (by decide)
  exact Lemmas.Emit.renderView_service o nm _ _ view services protos hp hsv (async_client_iff o).2

/-! ## Imports between the emitted modules of a service package (`Model/Imports.lean`) -/

/-- the async-REST experiment is used together with gRPC (the generator emits `async_client.py` for
`rest` + experiment alone, but that module imports `.transports.grpc_asyncio` unconditionally) -/
def AsyncNeedsGrpc (o : Opts) : Prop := o.restAsync = true → grpc ∈ o.transport

section AuxImports

/-- relative imports: at least one dot, never climbing out of the service directory, naming the file of their target;
neither end is `gapic_version` (the one module that lies outside the service directory) -/
def relOk (m : SMod) (i : Imp) : Bool :=
  match i.anchor with
  | .rel n => decide (resolveRel m.rel n i.path = i.target.rel) && decide (1 ≤ n) && decide (n ≤ m.rel.length) &&
              decide (i.target ≠ .gapicVersion) && decide (m ≠ .gapicVersion)
  | _ => true

theorem relOk_all (g r a paged : Bool) (m : SMod) : (imports (optsOf g r a) paged m).all (relOk m) = true := by
  cases m <;> (revert g r a paged; decide +kernel)

theorem imports_resolve_optsOf (g r a paged : Bool) (h : a = true → g = true) (m : SMod) (hm : emittedT g r a paged m = true) :
    ∀ i ∈ imports (optsOf g r a) paged m, emittedT g r a paged i.target = true := by
  cases m <;> (revert g r a paged; decide +kernel)

theorem gate_of_emitted (o : Opts) (paged : Bool) (m : SMod) (hm : m ≠ .gapicVersion)
    (h : emitted o paged m = true) : serviceGate m.template o = true := by
  cases m
  case gapicVersion => exact absurd rfl hm
  case pagers =>
    rw [emitted, Bool.and_eq_true] at h
    exact h.1
  all_goals exact h

end AuxImports

/-- **Which modules a service contributes** (all twelve, closed form; extends `transport_modules_exact` to the
client modules and to `pagers.py`, which the empty-module rule drops iff the service has no paged method) -/
theorem service_modules_emitted_exact (o : Opts) (hs : Supported o) (paged : Bool) (m : SMod) :
    emitted o paged m = emittedT (o.transport.contains grpc) (o.transport.contains rest) o.restAsync paged m :=
  emitted_eq o paged m (.inl hs)

/-- **Every import between the modules of a service package names an emitted module** (hard or inside
`try/except ImportError`; relative or absolute), for every supported option list with `AsyncNeedsGrpc`. -/
theorem service_imports_resolve (o : Opts) (hs : Supported o) (ha : AsyncNeedsGrpc o) (paged : Bool) (m : SMod)
    (hm : emitted o paged m = true) : ∀ i ∈ imports o paged m, emitted o paged i.target = true := by
  intro i hi
  rw [service_modules_emitted_exact o hs] at hm ⊢
  rw [imports_optsOf] at hi
  exact imports_resolve_optsOf _ _ _ _ (fun h => List.contains_iff_mem.mpr (ha h)) m hm i hi

/-- the hypothesis `AsyncNeedsGrpc` is necessary: for EVERY supported option list with the experiment on and gRPC
not requested, `async_client.py` is emitted, imports `.transports.grpc_asyncio` unconditionally, and that module
is not emitted (reproduced on the real generator: corpus/C01/async_rest_without_grpc.json) -/
theorem async_rest_without_grpc_breaks_imports (o : Opts) (hs : Supported o) (ha : o.restAsync = true)
    (hg : grpc ∉ o.transport) (paged : Bool) :
    emitted o paged .asyncClient = true ∧
    relTo [sTransports, grpcAsyncio] .grpcAsyncio ∈ imports o paged .asyncClient ∧
    emitted o paged .grpcAsyncio = false := by
  have h1 : o.transport.contains grpc = false := by simpa using hg
  rw [service_modules_emitted_exact o hs, service_modules_emitted_exact o hs, imports_optsOf, h1, ha]
  cases o.transport.contains rest <;> cases paged <;> decide

theorem service_imports_resolve_counterexample :
    emitted ⟨[rest], false, true, false⟩ false .asyncClient = true ∧
    (⟨.rel 1, [sTransports, grpcAsyncio], true, .grpcAsyncio⟩ : Imp) ∈ imports ⟨[rest], false, true, false⟩ false .asyncClient ∧
    emitted ⟨[rest], false, true, false⟩ false .grpcAsyncio = false :=
  async_rest_without_grpc_breaks_imports ⟨[rest], false, true, false⟩ (by simp [Supported]) rfl (by decide) false

/-- relative imports name the file of their target, and that file is in the response — whatever the service's module
name (`intra_service_imports_resolve` asks for a non-empty one, which the layout of the service directory does not need) -/
theorem relative_imports_resolve (o : Opts) (sh : Shape) (hs : Supported o) (ha : AsyncNeedsGrpc o)
    (view : Path) (s : Str) (hin : InView sh view s) (paged : Bool) (m : SMod) (hm : emitted o paged m = true) :
    ∀ i ∈ imports o paged m, ∀ n, i.anchor = .rel n →
      resolveRel (fileOf sh.naming view s m) n i.path = fileOf sh.naming view s i.target ∧
      fileOf sh.naming view s i.target ∈ renders o sh Pinned.templatesChars := by
  intro i hi n hn
  have hem := service_imports_resolve o hs ha paged m hm i hi
  have hok := relOk_all (o.transport.contains grpc) (o.transport.contains rest) o.restAsync paged m
  rw [← imports_optsOf, List.all_eq_true] at hok
  have hi' := hok i hi
  simp only [relOk, hn, Bool.and_eq_true, decide_eq_true_eq, and_assoc] at hi'
  obtain ⟨hres, h1, hlen, ht, hm'⟩ := hi'
  constructor
  · rw [service_file_layout _ _ _ m hm', service_file_layout _ _ _ i.target ht, resolveRel_prefix _ _ _ _ hlen h1, hres]
  · exact service_module_rendered o sh view s i.target ht hin (gate_of_emitted o paged i.target ht hem)

/-- **Relative imports name the FILE of their target, and that file is in the response**: for every API shape,
every view (root or sub-package), every service of it, `from .transports.base import …` written in an emitted
module resolves (Python's rule for relative imports) to a file the generator renders. -/
theorem intra_service_imports_resolve (o : Opts) (sh : Shape) (hs : Supported o) (ha : AsyncNeedsGrpc o)
    (view : Path) (s : Str) (hin : InView sh view s) (hne : s ≠ []) (paged : Bool) (m : SMod)
    (hm : emitted o paged m = true) :
    ∀ i ∈ imports o paged m, ∀ n, i.anchor = .rel n →
      resolveRel (fileOf sh.naming view s m) n i.path = fileOf sh.naming view s i.target ∧
      fileOf sh.naming view s i.target ∈ renders o sh Pinned.templatesChars :=
  relative_imports_resolve o sh hs ha view s hin paged m hm

/-- `AsyncNeedsGrpc`, `InView`, `s ≠ []`, `emitted … = true` are met by a grpc+rest library with the experiment on, a service
in a sub-package, and the client module (five relative imports, one of them soft) -/
example : AsyncNeedsGrpc ⟨[grpc, rest], false, true, false⟩ ∧
    InView ⟨⟨[['a']], ['l'], ['v', '1'], ['l', '_', 'v', '1']⟩, ⟨[], [], []⟩, [⟨[['s', 'u', 'b']], [['s', 'v', 'c']], []⟩]⟩ [['s', 'u', 'b']] ['s', 'v', 'c'] ∧
    (['s', 'v', 'c'] : Str) ≠ [] ∧ emitted ⟨[grpc, rest], false, true, false⟩ true .client = true ∧
    (imports ⟨[grpc, rest], false, true, false⟩ true .client).length = 7 :=
  ⟨fun _ => by decide, .inr ⟨_, List.mem_singleton.mpr rfl, rfl, List.mem_singleton.mpr rfl⟩, by decide +kernel⟩

/-- **The registry's transport classes are the ones `client.py` imports**: every registry key has its transport
module imported by the client module -/
theorem registry_classes_imported (o : Opts) (paged : Bool) (l : Str) (hl : l ∈ registry o) :
    ∃ i ∈ imports o paged .client, i.target.modPath = [sTransports, l] := by
  rw [imports_optsOf]
  unfold registry at hl
  revert l
  cases o.transport.contains grpc <;> cases o.transport.contains rest <;> cases o.restAsync <;> cases paged <;> decide

/-- … and nothing else from `transports/` but `base` -/
theorem client_imports_only_registered (o : Opts) (paged : Bool) : ∀ i ∈ imports o paged .client,
    i.target = .gapicVersion ∨ i.target = .pagers ∨ i.target = .base ∨
      ∃ l ∈ registry o, i.target.modPath = [sTransports, l] := by
  rw [imports_optsOf]
  unfold registry
  cases o.transport.contains grpc <;> cases o.transport.contains rest <;> cases o.restAsync <;> cases paged <;> decide

/-- **The client names the package `__init__` imports are bound by the service package**, and each is defined
in an emitted module: the synchronous client always, the asyncio client exactly when gRPC is requested -/
theorem client_names_exported (o : Opts) (hs : Supported o) (paged : Bool) (c : ClientName) (hc : c ∈ pkgInitWants o) :
    c ∈ svcInitExports o ∧ emitted o paged c.definedIn = true ∧
    (relTo c.definedIn.modPath c.definedIn) ∈ imports o paged .init := by
  rw [service_modules_emitted_exact o hs, imports_optsOf]
  unfold pkgInitWants at hc
  unfold svcInitExports
  revert hc
  cases o.transport.contains grpc <;> cases c <;> simp [emittedT, ClientName.definedIn, imports, optsOf, SMod.modPath, relTo]

theorem async_client_exported_iff_grpc (o : Opts) : ClientName.async ∈ svcInitExports o ↔ grpc ∈ o.transport := by
  rw [← List.contains_iff_mem (as := o.transport)]
  unfold svcInitExports
  cases o.transport.contains grpc <;> simp

example : (['r', 'e', 's', 't'] : Str) ∈ registry ⟨[rest], false, false, false⟩ ∧ ClientName.async ∈ pkgInitWants ⟨[grpc], false, false, false⟩ := by decide

/-! ## Module-name collisions of a proto file (`Proto.names`) -/

section AuxNames

theorem twoPackages_iff (refs : List Ref) (m : Str) :
    twoPackages refs m = true ↔
      ∃ a ∈ refs, ∃ b ∈ refs, a.module = m ∧ b.module = m ∧ a.package ≠ b.package := by
  simp [twoPackages, List.any_eq_true, and_assoc]

end AuxNames

/-- **Which module names are collisions**: exactly the names some reference of the FILE uses, and that either two
references anywhere in the file (of one message or of two) use from distinct proto packages, or that are reserved -/
theorem module_collision_iff (reserved : List Str) (msgs : List (List Ref)) (m : Str) :
    m ∈ moduleCollisions reserved msgs ↔
      (∃ r ∈ msgs.flatten, r.module = m) ∧
      ((∃ a ∈ msgs.flatten, ∃ b ∈ msgs.flatten, a.module = m ∧ b.module = m ∧ a.package ≠ b.package) ∨ m ∈ reserved) := by
  simp only [moduleCollisions, List.mem_filter, List.mem_map, Bool.or_eq_true, twoPackages_iff, List.contains_iff_mem]

/-- **Union first, then count**: a module name that two DIFFERENT messages of one file use from two distinct packages
is in the file's collision set (so both imports get an alias), although neither message sees both packages -/
theorem collision_across_messages (reserved : List Str) (msgs : List (List Ref)) (ma mb : List Ref)
    (ha : ma ∈ msgs) (hb : mb ∈ msgs) (a b : Ref) (hma : a ∈ ma) (hmb : b ∈ mb)
    (hm : a.module = b.module) (hp : a.package ≠ b.package) :
    a.module ∈ moduleCollisions reserved msgs ∧ a.module ∈ protoNames plain reserved msgs := by
  have hfa : a ∈ msgs.flatten := List.mem_flatten.mpr ⟨ma, ha, hma⟩
  have hfb : b ∈ msgs.flatten := List.mem_flatten.mpr ⟨mb, hb, hmb⟩
  have h1 : a.module ∈ moduleCollisions reserved msgs :=
    (module_collision_iff reserved msgs a.module).mpr ⟨⟨a, hfa, rfl⟩, Or.inl ⟨a, hfa, b, hfb, rfl, hm.symm, hp⟩⟩
  exact ⟨h1, by simp [protoNames, h1]⟩

/-- its hypotheses are met: two messages, one reference each, same module name, two packages -/
example : (⟨['c'], ['a']⟩ : Ref) ∈ [(⟨['c'], ['a']⟩ : Ref)] ∧ (⟨['c'], ['a']⟩ : Ref).module = (⟨['c'], ['a', '.', 'b']⟩ : Ref).module ∧
    (⟨['c'], ['a']⟩ : Ref).package ≠ (⟨['c'], ['a', '.', 'b']⟩ : Ref).package := by decide

/-- the per-message table finds no more than the per-file table … -/
theorem per_message_subset (reserved : List Str) (msgs : List (List Ref)) (m : Str)
    (h : m ∈ moduleCollisionsPerMessage reserved msgs) : m ∈ moduleCollisions reserved msgs := by
  simp only [moduleCollisionsPerMessage, List.mem_flatMap, List.mem_filter, List.mem_map, Bool.or_eq_true, twoPackages_iff,
    List.contains_iff_mem] at h
  obtain ⟨refs, hrefs, ⟨r, hr, hrm⟩, hc⟩ := h
  have hsub : ∀ x ∈ refs, x ∈ msgs.flatten := fun x hx => List.mem_flatten.mpr ⟨refs, hrefs, hx⟩
  exact (module_collision_iff reserved msgs m).mpr
    ⟨⟨r, hsub r hr, hrm⟩, hc.imp_left fun ⟨a, ha, b, hb, h⟩ => ⟨a, hsub a ha, b, hsub b hb, h⟩⟩

/-- … and strictly less: two messages each using one of two same-named modules (`common` of the API package and of a
sub-package) — the per-file set has `common`, the per-message set is empty (the shape of seeded/seed9_C01) -/
theorem per_message_misses_counterexample :
    moduleCollisions [] [[⟨['c','o','m','m','o','n'], ['a','.','v','1']⟩], [⟨['c','o','m','m','o','n'], ['a','.','v','1','.','s','u','b']⟩]]
      = [['c','o','m','m','o','n'], ['c','o','m','m','o','n']] ∧
    moduleCollisionsPerMessage [] [[⟨['c','o','m','m','o','n'], ['a','.','v','1']⟩], [⟨['c','o','m','m','o','n'], ['a','.','v','1','.','s','u','b']⟩]] = [] := by
  decide

/-- with one message (or one message that reaches both packages) the two tables agree -/
theorem per_message_eq_single (reserved : List Str) (refs : List Ref) :
    moduleCollisionsPerMessage reserved [refs] = moduleCollisions reserved [refs] := by
  simp [moduleCollisionsPerMessage, moduleCollisions]

/-! ## The empty-module rule (`utils.empty`, end of `Generator._get_file`) -/

/-- lines are judged independently: `empty(a + "\n" + b) = empty(a) and empty(b)` -/
theorem empty_append_newline (a b : Str) :
    emptyContent (a ++ '\n' :: b) = (emptyContent a && emptyContent b) := emptyScan_append_newline false a b

/-- one line is "empty" iff it is blank or its first non-blank character is `#` -/
theorem empty_line (l : Str) (hn : '\n' ∉ l) : emptyContent l = blankOrComment l := emptyScan_line l hn

/-- **`empty(content)` iff every line of `content` is blank or a comment** (all texts, all lengths) -/
theorem empty_iff_lines (ls : List Str) (hls : ∀ l ∈ ls, '\n' ∉ l) (hne : ls ≠ []) :
    emptyContent (['\n'].intercalate ls) = ls.all blankOrComment := by
  induction ls with
  | nil => exact absurd rfl hne
  | cons l rest ih =>
    cases rest with
    | nil => simp [List.intercalate, empty_line l (hls l (by simp))]
    | cons l2 rest2 =>
      have h : ['\n'].intercalate (l :: l2 :: rest2) = l ++ '\n' :: ['\n'].intercalate (l2 :: rest2) := by
        simp [List.intercalate, List.intersperse]
      rw [h, empty_append_newline, empty_line l (hls l (by simp)),
        ih (fun x hx => hls x (by simp [hx])) (by simp)]
      simp

/-- a licence header followed by one statement is not empty; without the statement it is -/
example : emptyContent (['\n'].intercalate [['#', ' ', 'x'], [], [' ', ' '], ['x', ' ', '=', ' ', '1']]) = false ∧
    emptyContent (['\n'].intercalate [['#', ' ', 'x'], [], [' ', '\t'], [' ', '#']]) = true := by decide

/-- `__init__.py` and `py.typed` are never dropped; any other file is kept iff it holds a statement -/
theorem keep_rule (name content : Str) :
    (['_', '_', 'i', 'n', 'i', 't', '_', '_', '.', 'p', 'y'].isSuffixOf name = true → keepFile name content = true) ∧
    (['p', 'y', '.', 't', 'y', 'p', 'e', 'd'].isSuffixOf name = true → keepFile name content = true) ∧
    (['_', '_', 'i', 'n', 'i', 't', '_', '_', '.', 'p', 'y'].isSuffixOf name = false → ['p', 'y', '.', 't', 'y', 'p', 'e', 'd'].isSuffixOf name = false →
      keepFile name content = !emptyContent content) := by
  unfold keepFile
  refine ⟨fun h => by simp [h], fun h => by simp [h], fun h1 h2 => by simp [h1, h2]⟩

end GapicModel.Props.C01
