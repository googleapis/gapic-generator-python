import GapicModel.Model.Retry
import GapicModel.Lemmas.C09
/-
C09 — default retry and timeout of each method equal its gRPC service-config entry (DESIGN §7.9).

The generator half (`selectConfig`, `toFloat?`, `classesOf`, `methodDefaults`, `emittedDefaults`) models
/repo; the run-time half (`effective`, `bound`, `attemptTimeout`, `run`, `call`) is a reference model of
google-api-core (trusted shell, validated by T3).  All quantities are exact rationals.
-/
namespace GapicModel.Props.C09
open GapicModel.Model.Retry

/-- **The entry that applies is the first one whose `name` list contains exactly `{service, method}`.** -/
theorem select_named_first (cfg : ServiceConfig) (svc meth : String) (mc : MethodConfig) :
    selectConfig cfg svc meth = some mc ↔
      mc.namesMethod svc meth = true ∧
      ∃ pre post, cfg = pre ++ mc :: post ∧ ∀ c ∈ pre, c.namesMethod svc meth = false := by
  simp only [selectConfig, List.find?_eq_some_iff_append, Bool.not_eq_true']

theorem select_none_iff (cfg : ServiceConfig) (svc meth : String) :
    selectConfig cfg svc meth = none ↔ ∀ c ∈ cfg, c.namesMethod svc meth = false := by
  simp [selectConfig]

/-- a name matches only when BOTH keys are present and equal: a service-wide name (no `method`), a name
of another service, or of another method, does not name the method. -/
theorem names_method_iff (c : MethodConfig) (svc meth : String) :
    c.namesMethod svc meth = true ↔ ∃ n ∈ c.names, n.service = some svc ∧ n.method = some meth := by
  rw [MethodConfig.namesMethod, List.contains_iff_mem]
  exact ⟨fun h => ⟨_, h, rfl, rfl⟩, fun ⟨⟨_, _⟩, hn, hs, hm⟩ => by cases hs; cases hm; exact hn⟩

theorem select_none_of_names (cfg : ServiceConfig) (svc meth : String)
    (h : ∀ c ∈ cfg, ∀ n ∈ c.names, ¬(n.service = some svc ∧ n.method = some meth)) :
    selectConfig cfg svc meth = none := by
  rw [select_none_iff]
  intro c hc
  rw [← Bool.not_eq_true, names_method_iff]
  exact fun ⟨n, hn, hs⟩ => h c hc n hn hs

/-- entries that name OTHER services never apply — in particular, for a service declared in a file of a proto
sub-package (`acme.lib.v1.admin`), an entry that spells the service under the API's root package
(`acme.lib.v1.Admin`): the selector carries the package of the declaring file (`selectorService`). -/
theorem select_only_own_service (cfg : ServiceConfig) (svc meth : String)
    (h : ∀ c ∈ cfg, ∀ n ∈ c.names, n.service ≠ some svc) : selectConfig cfg svc meth = none :=
  select_none_of_names cfg svc meth fun c hc n hn hs => h c hc n hn hs.1

/-- sub-package services: the name to use is the proto full name of the service (kernel-evaluated instances) -/
theorem selector_sub_package_samples :
    selectorService ["acme", "lib", "v1", "admin"] "Admin" = "acme.lib.v1.admin.Admin" ∧
    selectorService ["acme", "lib", "v1"] "Library" = "acme.lib.v1.Library" ∧
    (selectConfig [⟨[⟨some "acme.lib.v1.admin.Admin", some "Get"⟩], some "5s".toList, none⟩]
      (selectorService ["acme", "lib", "v1", "admin"] "Admin") "Get").isSome = true ∧
    selectConfig [⟨[⟨some "acme.lib.v1.Admin", some "Get"⟩, ⟨some "acme.lib_v1.admin.Admin", some "Get"⟩], some "5s".toList, none⟩]
      (selectorService ["acme", "lib", "v1", "admin"] "Admin") "Get" = none := by
  decide +kernel

example : ∀ c ∈ ([⟨[⟨some "acme.lib.v1.Admin", some "Get"⟩], some "5s".toList, none⟩] : ServiceConfig),
    ∀ n ∈ c.names, n.service ≠ some (selectorService ["acme", "lib", "v1", "admin"] "Admin") := by decide +kernel

/-- entries that carry only service-wide names (`{"service": S}`), the catch-all `{}` or names without a
service never apply to any method: the generator implements method-level entries only. -/
theorem service_level_entries_select_nothing (cfg : ServiceConfig) (svc meth : String)
    (h : ∀ c ∈ cfg, ∀ n ∈ c.names, n.method = none ∨ n.service = none) :
    selectConfig cfg svc meth = none :=
  select_none_of_names cfg svc meth fun c hc n hn ⟨hs, hm⟩ =>
    (h c hc n hn).elim (fun e => by rw [e] at hm; cases hm) (fun e => by rw [e] at hs; cases hs)

example : ∀ c ∈ ([⟨[⟨some "a.B", none⟩, ⟨none, none⟩, ⟨none, some "Get"⟩], some ['5', 's'], none⟩] : ServiceConfig),
    ∀ n ∈ c.names, n.method = none ∨ n.service = none := by decide +kernel

/-- **A method no entry names gets no default retry and no default timeout: exactly one attempt is made,
it carries no deadline, no wait is requested, and whatever the server answered surfaces.** -/
theorem unnamed_single_attempt_no_deadline (cfg : ServiceConfig) (svc meth : String)
    (h : ∀ c ∈ cfg, c.namesMethod svc meth = false) (jit : Nat → Rat) (r : Reply) (rest : List Reply) :
    methodDefaults cfg svc meth = .ok (none, none) ∧
    emittedDefaults (none, none) = ⟨none, none⟩ ∧
    call ⟨none, none⟩ .default .default jit (r :: rest) =
      ⟨[⟨0, none⟩], [], match r with | .ok => .success | .err c => .failed c⟩ := by
  refine ⟨?_, rfl, by cases r <;> rfl⟩
  rw [methodDefaults, (select_none_iff cfg svc meth).2 h]

example : ∀ c ∈ ([⟨[⟨some "a.B", none⟩, ⟨some "a.B", some "Other"⟩], some "5s".toList, none⟩] : ServiceConfig),
    c.namesMethod "a.B" "Get" = false := by decide +kernel

section Aux

theorem ofName_name (c : Code) : Code.ofName? c.name = some c := by
  -- one evaluation of the whole table costs half of what one per code does
  have tbl : ∀ c ∈ Code.all, Code.ofName? c.name = some c := by decide +kernel
  exact tbl c (by cases c <;> decide)

end Aux

/-- the classes of a list of status-code names are exactly the classes of those codes, in order -/
theorem classesOf_codes (cs : List Code) : classesOf (cs.map Code.name) = .ok (cs.map excOfCode) := by
  induction cs with
  | nil => rfl
  | cons c cs ih =>
    simp only [List.map_cons, classesOf, ofName_name, ih]
    rfl

/-- `_to_float` on the decimal spellings a service config uses (kernel-evaluated instances, incl. the
`n` branch and the fact that the final character is dropped unchecked). -/
theorem toFloat_samples :
    toFloat? "1.5s".toList = some (3/2) ∧ toFloat? "30s".toList = some 30 ∧
    toFloat? "0.250s".toList = some (1/4) ∧ toFloat? "250000000n".toList = some (1/4) ∧
    toFloat? "0.000000001s".toList = some (1/1000000000) ∧ toFloat? "7.s".toList = some 7 ∧
    toFloat? ".5s".toList = some (1/2) ∧ toFloat? "30m".toList = some 30 ∧
    toFloat? "s".toList = none ∧ toFloat? "".toList = none ∧ toFloat? "-1s".toList = some (-1) ∧
    toFloat? "1.05s".toList = some (21/20) ∧ toFloat? "2.025s".toList = some (81/40) ∧
    toFloat? "1.000000001s".toList = some (1000000001/1000000000) ∧ toFloat? "3n".toList = some (3/1000000000) := by
  simp -index only [String.toList_ofList]
  decide +kernel

/-! ### `_to_float` on every well-formed literal -/

section ToFloat
open GapicModel.Lemmas.C09

/-- **Every decimal duration `d+.d*u` / `.d+u` is read at exactly its decimal value** — any number of integer and
fraction digits (leading zeros of the fraction count: `1.05s` is 1 + 5/100), any final character but `n`. -/
theorem to_float_decimal_value (ip fp : List Char) (hi : AllDigits ip) (hf : AllDigits fp)
    (hne : ip ≠ [] ∨ fp ≠ []) (u : Char) (hu : u ≠ 'n') :
    toFloat? (ip ++ '.' :: fp ++ [u]) = some ((digitsVal ip : Rat) + (digitsVal fp : Rat) / pow10 fp.length) := by
  have hp := plain_frac ip fp hi hf
  rw [toFloat_mantissa (splitSign_plain _ hp) hp u hu, parseDecimal_frac ip fp hi hf hne]
  rfl

/-- whole seconds `d+u` -/
theorem to_float_whole_value (ip : List Char) (hi : AllDigits ip) (hne : ip ≠ []) (u : Char) (hu : u ≠ 'n') :
    toFloat? (ip ++ [u]) = some (digitsVal ip : Rat) := by
  have hp := plain_of_digits ip hi
  rw [toFloat_mantissa (splitSign_plain _ hp) hp u hu, parseDecimal_whole ip hi hne]
  rfl

/-- the nanosecond spelling `d+n` denotes that many nanoseconds -/
theorem to_float_nanos_value (ds : List Char) (hd : AllDigits ds) (hne : ds ≠ []) :
    toFloat? (ds ++ ['n']) = some ((digitsVal ds : Rat) / pow10 9) := by
  rw [toFloat_snoc, if_pos rfl, parseInt_signed (splitSign_plain ds (plain_of_digits ds hd)) hd hne]
  rfl

/-- a leading `-` negates (JSON durations may be negative; a service config has no use for them — the reader
accepts them all the same), a leading `+` is dropped -/
theorem to_float_signed_value (ip fp : List Char) (hi : AllDigits ip) (hf : AllDigits fp)
    (hne : ip ≠ [] ∨ fp ≠ []) (u : Char) (hu : u ≠ 'n') :
    toFloat? ('-' :: ip ++ '.' :: fp ++ [u]) = some (-((digitsVal ip : Rat) + (digitsVal fp : Rat) / pow10 fp.length)) ∧
    toFloat? ('+' :: ip ++ '.' :: fp ++ [u]) = some ((digitsVal ip : Rat) + (digitsVal fp : Rat) / pow10 fp.length) := by
  have hp := plain_frac ip fp hi hf
  constructor
  · rw [toFloat_mantissa (neg := true) (body := ip ++ '.' :: fp) rfl hp u hu, parseDecimal_frac ip fp hi hf hne]
    rfl
  · rw [toFloat_mantissa (neg := false) (body := ip ++ '.' :: fp) rfl hp u hu, parseDecimal_frac ip fp hi hf hne]
    rfl

/-- the unit is never looked at: any final character but `n` gives the same reading (`30m` is thirty SECONDS) -/
theorem to_float_unit_unchecked (body : List Char) (u v : Char) (hu : u ≠ 'n') (hv : v ≠ 'n') :
    toFloat? (body ++ [u]) = toFloat? (body ++ [v]) := by
  rw [toFloat_snoc, toFloat_snoc, if_neg hu, if_neg hv]

/-- **Round trip through the canonical rendering**: `s` seconds written with `w ≥ 1` digits and a fraction of
`f` zero-padded digits worth `n / 10^f` is read as exactly `s + n / 10^f` (protobuf's JSON printer uses
f ∈ {0 (no point), 3, 6, 9}). -/
theorem to_float_canonical_roundtrip (w f s n : Nat) (hw : 0 < w) (hs : s < 10 ^ w) (hn : n < 10 ^ f) :
    toFloat? (digitsOf w s ++ '.' :: digitsOf f n ++ ['s']) = some ((s : Rat) + (n : Rat) / pow10 f) := by
  rw [to_float_decimal_value _ _ (digitsOf_allDigits w s) (digitsOf_allDigits f n)
        (Or.inl (digitsOf_ne_nil w s hw)) 's' (by decide),
      digitsVal_digitsOf, digitsVal_digitsOf, digitsOf_length, Nat.mod_eq_of_lt hs, Nat.mod_eq_of_lt hn]

theorem to_float_nanos_roundtrip (w n : Nat) (hw : 0 < w) (hn : n < 10 ^ w) :
    toFloat? (digitsOf w n ++ ['n']) = some ((n : Rat) / pow10 9) := by
  rw [to_float_nanos_value _ (digitsOf_allDigits w n) (digitsOf_ne_nil w n hw), digitsVal_digitsOf,
      Nat.mod_eq_of_lt hn]

/-- the two spellings of one duration agree: `S.NNNNNNNNNs` and `(S·10⁹+N)n` -/
theorem seconds_nanos_spellings_agree (w s n : Nat) (hw : 0 < w) (hs : s < 10 ^ w) (hn : n < 10 ^ 9) :
    toFloat? (digitsOf w s ++ '.' :: digitsOf 9 n ++ ['s']) = toFloat? (digitsOf (w + 9) (s * 10 ^ 9 + n) ++ ['n']) := by
  have hlt : s * 10 ^ 9 + n < 10 ^ (w + 9) := by
    rw [Nat.pow_add]
    exact Nat.lt_of_lt_of_le (by rw [Nat.succ_mul]; exact Nat.add_lt_add_left hn _) (Nat.mul_le_mul_right _ hs)
  rw [to_float_canonical_roundtrip w 9 s n hw hs hn, to_float_nanos_roundtrip (w + 9) _ (Nat.succ_pos _) hlt,
    natCast_split]

example : digitsOf 1 1 ++ '.' :: digitsOf 2 5 ++ ['s'] = "1.05s".toList ∧
    digitsOf 1 0 ++ '.' :: digitsOf 9 1 ++ ['s'] = "0.000000001s".toList ∧ digitsOf 1 3 ++ ['n'] = "3n".toList ∧
    AllDigits "0123456789".toList ∧ (0 < 1 ∧ 1 < 10 ^ 1 ∧ 5 < 10 ^ 2) := by
  simp -index only [String.toList_ofList]
  decide +kernel

/-- exponents, signs and what the model leaves out (`none`): kernel-evaluated instances, each run on the real
`_to_float` by the harness (`DUR_SAMPLES`). -/
theorem toFloat_exponent_samples :
    toFloat? "1e3s".toList = some 1000 ∧ toFloat? "1.5E-3s".toList = some (3/2000) ∧
    toFloat? "-2.5e+1s".toList = some (-25) ∧ toFloat? "+.5s".toList = some (1/2) ∧
    toFloat? "-5n".toList = some (-5/1000000000) ∧ toFloat? "+7n".toList = some (7/1000000000) ∧
    toFloat? "1es".toList = none ∧ toFloat? "e5s".toList = none ∧ toFloat? ".e1s".toList = none ∧
    toFloat? "+-1s".toList = none ∧ toFloat? "-s".toList = none ∧ toFloat? "1e5e5s".toList = none ∧
    toFloat? "1.5n".toList = none ∧ toFloat? "1e3n".toList = none ∧
    toFloat? "1_0s".toList = none ∧ toFloat? " 1s".toList = none ∧ toFloat? "infs".toList = none := by
  simp -index only [String.toList_ofList]
  decide +kernel

end ToFloat

/-- **The emitted table entry carries exactly the entry's values**: `initial`/`maximum`/`multiplier` are
the parsed `initialBackoff`/`maxBackoff`/`backoffMultiplier` (keyword omitted when the value is 0), the
predicate lists the classes of `retryableStatusCodes`, `deadline` and `default_timeout` are the entry's
`timeout`. -/
theorem emitted_params_exact (cfg : ServiceConfig) (svc meth : String) (mc : MethodConfig) (rp : RetryPolicy)
    (i m : Rat) (cls : List Exc) (t : Option Rat)
    (hsel : selectConfig cfg svc meth = some mc) (hrp : mc.retryPolicy = some rp)
    (hi : toFloat? (rp.initialBackoff.getD "0s".toList) = some i)
    (hm : toFloat? (rp.maxBackoff.getD "0s".toList) = some m)
    (hc : classesOf rp.codes = .ok cls) (ht : timeoutOf mc = .ok t) :
    (methodDefaults cfg svc meth).map emittedDefaults = .ok
      { retry := some { initial := truthy i, maximum := truthy m,
                        multiplier := truthy (rp.backoffMultiplier.getD 0),
                        predicate := cls.eraseDups, deadline := t },
        timeout := t } := by
  simp only [methodDefaults, hsel, ht, hrp, retryInfoOf, dur, hi, hm, hc]
  rfl

example : selectConfig [⟨[⟨some "a.B", some "Get"⟩], some "5s".toList,
    some ⟨none, some "0.1s".toList, some "2s".toList, some (13/10), ["UNAVAILABLE"]⟩⟩] "a.B" "Get" ≠ none := by
  decide +kernel

/-- an entry with a timeout and no retryPolicy: no default retry, `default_timeout` = the timeout -/
theorem timeout_without_retry (cfg : ServiceConfig) (svc meth : String) (mc : MethodConfig) (t : Option Rat)
    (hsel : selectConfig cfg svc meth = some mc) (hrp : mc.retryPolicy = none) (ht : timeoutOf mc = .ok t) :
    (methodDefaults cfg svc meth).map emittedDefaults = .ok ⟨none, t⟩ := by
  simp only [methodDefaults, hsel, ht, hrp]
  rfl

/-- `if mc.get("timeout")`: an empty string is no timeout -/
theorem empty_timeout_is_none (ns : List Name) (r : Option RetryPolicy) :
    timeoutOf ⟨ns, some [], r⟩ = .ok none ∧ timeoutOf ⟨ns, none, r⟩ = .ok none := ⟨rfl, rfl⟩

section Aux

theorem timeoutOf_literal (mc : MethodConfig) (lit : List Char) (r : Rat) (ht : mc.timeout = some lit)
    (hv : toFloat? lit = some r) : timeoutOf mc = .ok (some r) := by
  cases lit with
  | nil => simp [toFloat?] at hv
  | cons c cs => simp [timeoutOf, ht, dur, hv, Except.map]

end Aux

/-- the parameters the `Retry` object ends up with: a value of 0 is not emitted and api-core's own
default (1 s, 60 s, ×2) applies — the forced hypothesis of DESIGN §7.9, stated. -/
theorem effective_params (e : EmittedRetry) :
    (effective e).initial = e.initial.getD 1 ∧ (effective e).maximum = e.maximum.getD 60 ∧
    (effective e).multiplier = e.multiplier.getD 2 ∧ (effective e).predicate = e.predicate ∧
    (effective e).deadline = e.deadline := ⟨rfl, rfl, rfl, rfl, rfl⟩

theorem truthy_eq (r : Rat) : truthy r = if r = 0 then none else some r := rfl

/-- **`deadline` and `default_timeout` are both the entry's timeout.** -/
theorem deadline_is_timeout (d : Option RetryInfo × Option Rat) :
    (emittedDefaults d).timeout = d.2 ∧
    ∀ r, (emittedDefaults d).retry = some r → r.deadline = d.2 ∧ (effective r).deadline = d.2 := by
  refine ⟨rfl, fun r hr => ?_⟩
  obtain ⟨_ | ri, t⟩ := d <;> cases hr
  exact ⟨rfl, rfl⟩

/-- `default_timeout`, and with a retryPolicy the overall `deadline`, are the timeout of the selected entry,
whatever else the entry holds -/
theorem timeout_reaches_table (cfg : ServiceConfig) (svc meth : String) (mc : MethodConfig) (t : Option Rat)
    (hsel : selectConfig cfg svc meth = some mc) (ht : timeoutOf mc = .ok t)
    (e : Emitted) (he : (methodDefaults cfg svc meth).map emittedDefaults = .ok e) :
    e.timeout = t ∧ ∀ r, e.retry = some r → r.deadline = t := by
  obtain ⟨ri?, hd⟩ : ∃ ri?, methodDefaults cfg svc meth = .ok (ri?, t) := by
    simp only [methodDefaults, hsel, ht] at he ⊢
    cases hrp : mc.retryPolicy with
    | none => exact ⟨none, rfl⟩
    | some rp =>
      cases hri : retryInfoOf rp with
      | error x => simp [hrp, hri, bind, Except.bind, Except.map] at he
      | ok ri => exact ⟨some ri, by simp only [hri]; rfl⟩
  rw [hd] at he
  cases he
  exact (deadline_is_timeout (ri?, t)).imp id fun h r hr => (h r hr).1

section Literals
open GapicModel.Lemmas.C09

/-- **An entry whose `timeout` is the decimal literal of `s + n/10^f`** (any widths, zero padded — `1.05s`,
`0.000000001s`, `4.050s`) **makes `default_timeout`, and with a retryPolicy the overall `deadline`, exactly that number.** -/
theorem timeout_literal_reaches_table (cfg : ServiceConfig) (svc meth : String) (mc : MethodConfig)
    (w f s n : Nat) (hw : 0 < w) (hs : s < 10 ^ w) (hn : n < 10 ^ f)
    (hsel : selectConfig cfg svc meth = some mc)
    (ht : mc.timeout = some (digitsOf w s ++ '.' :: digitsOf f n ++ ['s']))
    (e : Emitted) (he : (methodDefaults cfg svc meth).map emittedDefaults = .ok e) :
    e.timeout = some ((s : Rat) + (n : Rat) / pow10 f) ∧
    ∀ r, e.retry = some r → r.deadline = some ((s : Rat) + (n : Rat) / pow10 f) :=
  timeout_reaches_table cfg svc meth mc _ hsel
    (timeoutOf_literal mc _ _ ht (to_float_canonical_roundtrip w f s n hw hs hn)) e he

/-- the same for the back-off fields: the decimal literals of `initialBackoff` / `maxBackoff` reach
`initial=` / `maximum=` as exactly their values (0 = keyword omitted) -/
theorem backoff_literals_reach_table (cfg : ServiceConfig) (svc meth : String) (mc : MethodConfig) (rp : RetryPolicy)
    (w₁ f₁ s₁ n₁ w₂ f₂ s₂ n₂ : Nat) (hw₁ : 0 < w₁) (hs₁ : s₁ < 10 ^ w₁) (hn₁ : n₁ < 10 ^ f₁)
    (hw₂ : 0 < w₂) (hs₂ : s₂ < 10 ^ w₂) (hn₂ : n₂ < 10 ^ f₂) (cls : List Exc) (t : Option Rat)
    (hsel : selectConfig cfg svc meth = some mc) (hrp : mc.retryPolicy = some rp)
    (hi : rp.initialBackoff = some (digitsOf w₁ s₁ ++ '.' :: digitsOf f₁ n₁ ++ ['s']))
    (hm : rp.maxBackoff = some (digitsOf w₂ s₂ ++ '.' :: digitsOf f₂ n₂ ++ ['s']))
    (hc : classesOf rp.codes = .ok cls) (ht : timeoutOf mc = .ok t) :
    (methodDefaults cfg svc meth).map emittedDefaults = .ok
      { retry := some { initial := truthy ((s₁ : Rat) + (n₁ : Rat) / pow10 f₁),
                        maximum := truthy ((s₂ : Rat) + (n₂ : Rat) / pow10 f₂),
                        multiplier := truthy (rp.backoffMultiplier.getD 0),
                        predicate := cls.eraseDups, deadline := t },
        timeout := t } :=
  emitted_params_exact cfg svc meth mc rp _ _ cls t hsel hrp
    (by rw [hi]; exact to_float_canonical_roundtrip w₁ f₁ s₁ n₁ hw₁ hs₁ hn₁)
    (by rw [hm]; exact to_float_canonical_roundtrip w₂ f₂ s₂ n₂ hw₂ hs₂ hn₂) hc ht

/-- hypotheses met: the entry of `a.B/Get` with timeout `4.050s`, back-off `0.05s` … `2.025000s` -/
example :
    let mc : MethodConfig := ⟨[⟨some "a.B", some "Get"⟩], some (digitsOf 1 4 ++ '.' :: digitsOf 3 50 ++ ['s']),
      some ⟨none, some (digitsOf 1 0 ++ '.' :: digitsOf 2 5 ++ ['s']), some (digitsOf 1 2 ++ '.' :: digitsOf 6 25000 ++ ['s']),
            some 3, ["UNAVAILABLE"]⟩⟩
    selectConfig [mc] "a.B" "Get" = some mc ∧ mc.timeout = some "4.050s".toList ∧
    ((methodDefaults [mc] "a.B" "Get").map emittedDefaults).toOption =
      some ⟨some ⟨some (1/20), some (81/40), some 3, [.serviceUnavailable], some (81/20)⟩, some (81/20)⟩ := by
  decide +kernel

end Literals

section Aux

theorem excOfCode_injective (a b : Code) (h : excOfCode a = excOfCode b) : a = b := by
  -- `Code.all`, read at the constructor index of the class, is a left inverse
  have inv : ∀ c, Code.all[(excOfCode c).ctorIdx]? = some c := fun c => by cases c <;> rfl
  have := inv a
  rw [h, inv b] at this
  exact (Option.some.inj this).symm

theorem excOfCode_base_iff (c : Code) : excOfCode c = .googleAPICallError ↔ c = .ok := by
  cases c <;> decide

end Aux

theorem retryable_iff (p : Params) (c : Code) :
    p.retryable c = true ↔ excOfCode c ∈ p.predicate ∨ .googleAPICallError ∈ p.predicate := by
  simp only [Params.retryable, List.any_eq_true, Exc.isInstance, Bool.or_eq_true, beq_iff_eq]
  constructor
  · rintro ⟨x, hx, rfl | rfl⟩
    · exact .inl hx
    · exact .inr hx
  · rintro (h | h)
    · exact ⟨_, h, .inl rfl⟩
    · exact ⟨_, h, .inr rfl⟩

/-- the predicate is a SET of classes: only membership matters (the generator keeps a frozenset, the template
sorts it by name; any order and any duplicates give the same behaviour) -/
theorem retryable_congr_mem (p q : Params) (h : ∀ x, x ∈ p.predicate ↔ x ∈ q.predicate) (c : Code) :
    p.retryable c = q.retryable c := by
  rw [Bool.eq_iff_iff, retryable_iff, retryable_iff, h, h]

example : ∀ x, x ∈ ([.serviceUnavailable, .aborted, .serviceUnavailable] : List Exc) ↔ x ∈ ([.aborted, .serviceUnavailable] : List Exc) := by
  intro x
  simp only [List.mem_cons, List.not_mem_nil, or_false]
  grind

/-- **Retried exactly on the listed codes**: when the predicate is built from a list of codes that does
not contain `OK`, an error status is retryable iff it is listed. -/
theorem retryable_iff_listed (p : Params) (cs : List Code) (hpred : p.predicate = (cs.map excOfCode).eraseDups)
    (hok : Code.ok ∉ cs) (c : Code) : p.retryable c = true ↔ c ∈ cs := by
  rw [retryable_iff, hpred, List.mem_eraseDups, List.mem_eraseDups, List.mem_map, List.mem_map]
  constructor
  · rintro (⟨c', hc', h⟩ | ⟨c', hc', h⟩)
    · exact excOfCode_injective _ _ h ▸ hc'
    · exact absurd ((excOfCode_base_iff c').1 h ▸ hc') hok
  · exact fun hc => .inl ⟨c, hc, rfl⟩

example : Code.ok ∉ [Code.unavailable, Code.deadlineExceeded] := by decide +kernel

/-- `OK` among `retryableStatusCodes` puts the BASE class into the predicate, and then every error is
retried, listed or not (real code: reproduced, finding `ok-code-retries-every-error`). -/
theorem ok_listed_retries_every_error_counterexample :
    ∃ (p : Params) (cs : List Code), p.predicate = (cs.map excOfCode).eraseDups ∧
      Code.notFound ∉ cs ∧ p.retryable .notFound = true :=
  ⟨⟨1, 60, 2, [.googleAPICallError, .serviceUnavailable], none⟩, [.ok, .unavailable], by decide +kernel⟩

/-- sum of the sleep bounds `i, i+1, …, i+k-1` -/
def sumBounds (p : Params) : Nat → Nat → Rat
  | _, 0 => 0
  | i, k + 1 => bound p i + sumBounds p (i + 1) k

/-- `0 ≤ initial, maximum, multiplier` — what a service config gives (`truthy` values or api-core's 1, 60, 2) -/
def NonNeg (p : Params) : Prop := 0 ≤ p.initial ∧ 0 ≤ p.maximum ∧ 0 ≤ p.multiplier

def Jitter (jit : Nat → Rat) : Prop := ∀ i, 0 ≤ jit i ∧ jit i ≤ 1

section Aux

theorem bound_nonneg (p : Params) (hp : NonNeg p) (i : Nat) : 0 ≤ bound p i := by
  induction i with
  | zero => exact Std.le_min_iff.2 ⟨hp.1, hp.2.1⟩
  | succ i ih => exact Std.le_min_iff.2 ⟨Rat.mul_nonneg ih hp.2.2, hp.2.1⟩

theorem bound_le_maximum (p : Params) (i : Nat) : bound p i ≤ p.maximum := by
  cases i <;> exact Std.min_le_right

theorem bound_le_geometric (p : Params) (hm : 0 ≤ p.multiplier) (i : Nat) :
    bound p i ≤ p.initial * p.multiplier ^ i := by
  induction i with
  | zero => rw [Rat.pow_zero, Rat.mul_one]; exact Std.min_le_left
  | succ i ih =>
    rw [Rat.pow_succ, ← Rat.mul_assoc]
    exact Rat.le_trans Std.min_le_left (Rat.mul_le_mul_of_nonneg_right ih hm)

theorem wait_le_bound (p : Params) (hp : NonNeg p) (jit : Nat → Rat) (hj : Jitter jit) (i : Nat) :
    0 ≤ jit i * bound p i ∧ jit i * bound p i ≤ bound p i := by
  have hb := bound_nonneg p hp i
  refine ⟨Rat.mul_nonneg (hj i).1 hb, ?_⟩
  have := Rat.mul_le_mul_of_nonneg_right (hj i).2 hb
  rwa [Rat.one_mul] at this

theorem sumBounds_nonneg (p : Params) (hp : NonNeg p) (i k : Nat) : 0 ≤ sumBounds p i k := by
  induction k generalizing i with
  | zero => exact Rat.le_refl
  | succ k ih => exact Rat.add_nonneg (bound_nonneg p hp i) (ih (i + 1))

end Aux

/-- when the multiplier is at least 1 the bound IS the familiar closed form -/
theorem bound_closed_form (p : Params) (hp : NonNeg p) (hm : 1 ≤ p.multiplier) (i : Nat) :
    bound p i = min (p.initial * p.multiplier ^ i) p.maximum := by
  refine Rat.le_antisymm (Std.le_min_iff.2 ⟨bound_le_geometric p hp.2.2 i, bound_le_maximum p i⟩) ?_
  induction i with
  | zero => rw [Rat.pow_zero, Rat.mul_one]; exact Rat.le_refl
  | succ i ih =>
    -- `min (x * m) M ≤ min x M * m`: capping before the multiplication loses nothing when `1 ≤ m`
    refine Std.le_min_iff.2 ⟨Rat.le_trans ?_ (Rat.mul_le_mul_of_nonneg_right ih hp.2.2), Std.min_le_right⟩
    rcases Std.min_eq_or (a := p.initial * p.multiplier ^ i) (b := p.maximum) with e | e <;> rw [e]
    · rw [Rat.pow_succ, ← Rat.mul_assoc]; exact Std.min_le_left
    · exact Rat.le_trans Std.min_le_right (by simpa using Rat.mul_le_mul_of_nonneg_left hm hp.2.1)

/-- **Any other error surfaces after one attempt** (no wait, the error itself is the result) — also in
the middle of a sequence: `retryable^k` then a non-retryable error gives `k+1` attempts
(`other_error_after_retries`). -/
theorem other_error_one_attempt (p : Params) (timeout : Option Rat) (jit : Nat → Rat) (c : Code)
    (hc : p.retryable c = false) (rest : List Reply) (i : Nat) (el : Rat) :
    run (some p) timeout jit (.err c :: rest) i el = ⟨[⟨el, attemptTimeout timeout el⟩], [], .failed c⟩ := by
  simp [run, hc]

/-- a retryable error whose back-off would cross the deadline ends the call with `RetryError` -/
theorem deadline_exceeded_stops (p : Params) (timeout : Option Rat) (jit : Nat → Rat) (c : Code)
    (hc : p.retryable c = true) (D : Rat) (hD : p.deadline = some D) (rest : List Reply) (i : Nat) (el : Rat)
    (hx : el + jit i * bound p i > D) :
    run (some p) timeout jit (.err c :: rest) i el = ⟨[⟨el, attemptTimeout timeout el⟩], [], .retryError c⟩ := by
  simp [run, hc, hD, hx]

example : (⟨4, 4, 2, [.serviceUnavailable], some 3⟩ : Params).retryable .unavailable = true ∧
    (0 : Rat) + (fun _ => (1 : Rat)) 0 * bound ⟨4, 4, 2, [.serviceUnavailable], some 3⟩ 0 > 3 := by
  decide +kernel

section Aux

-- Keep below `unnamed_single_attempt_no_deadline`: Lean compiles this `match` into an auxiliary definition named after
-- the first declaration that uses it (`unnamed_single_attempt_no_deadline.match_1`), and the elaborated statements of that
-- theorem and of `mixin_single_attempt_no_deadline` and the body of `retryablePrefix` mention it by that name.
theorem run_none (timeout : Option Rat) (jit : Nat → Rat) (r : Reply) (rest : List Reply) (i : Nat) (el : Rat) :
    run none timeout jit (r :: rest) i el =
      ⟨[⟨el, attemptTimeout timeout el⟩], [], match r with | .ok => .success | .err c => .failed c⟩ := by
  cases r <;> rfl

/-- the trace of a call whose first attempt `a` was retried after the wait `w`, `t` being the rest of the call -/
def _root_.GapicModel.Model.Retry.Trace.retried (t : Trace) (a : Attempt) (w : Rat) : Trace :=
  ⟨a :: t.attempts, w :: t.waits, t.result⟩

theorem run_retry_step (p : Params) (timeout : Option Rat) (jit : Nat → Rat) (c : Code) (rest : List Reply)
    (i : Nat) (el : Rat) (hc : p.retryable c = true)
    (hfit : ∀ D, p.deadline = some D → el + jit i * bound p i ≤ D) :
    run (some p) timeout jit (.err c :: rest) i el =
      (run (some p) timeout jit rest (i + 1) (el + jit i * bound p i)).retried ⟨el, attemptTimeout timeout el⟩
        (jit i * bound p i) := by
  rw [run]
  simp only [hc, if_true]
  cases hD : p.deadline with
  | none => rfl
  | some D => exact if_neg (Rat.not_lt.2 (hfit D hD))

/-- one turn of the loop: either the call ends here, after this attempt and without a wait, or the reply is a
retryable error whose wait fits the deadline and the loop goes on -/
theorem run_cons (p : Params) (timeout : Option Rat) (jit : Nat → Rat) (r : Reply) (rest : List Reply)
    (i : Nat) (el : Rat) :
    (∃ res, run (some p) timeout jit (r :: rest) i el = ⟨[⟨el, attemptTimeout timeout el⟩], [], res⟩) ∨
    ((∃ c, r = .err c ∧ p.retryable c = true) ∧ (∀ D, p.deadline = some D → el + jit i * bound p i ≤ D) ∧
      run (some p) timeout jit (r :: rest) i el =
        (run (some p) timeout jit rest (i + 1) (el + jit i * bound p i)).retried ⟨el, attemptTimeout timeout el⟩
          (jit i * bound p i)) := by
  cases r with
  | ok => exact .inl ⟨.success, rfl⟩
  | err c =>
    cases hc : p.retryable c with
    | false => exact .inl ⟨.failed c, other_error_one_attempt p timeout jit c hc rest i el⟩
    | true =>
      by_cases hfit : ∀ D, p.deadline = some D → el + jit i * bound p i ≤ D
      · exact .inr ⟨⟨c, rfl, hc⟩, hfit, run_retry_step p timeout jit c rest i el hc hfit⟩
      · obtain ⟨D, hD, hx⟩ := Classical.not_forall.mp hfit |>.imp fun D h => Classical.not_imp.mp h
        exact .inl ⟨.retryError c, deadline_exceeded_stops p timeout jit c hc D hD rest i el (Rat.not_le.mp hx)⟩

end Aux

/-- without a default retry (entry with timeout only, or `retry=None`) every error surfaces at once -/
theorem no_retry_one_attempt (timeout : Option Rat) (jit : Nat → Rat) (r : Reply) (rest : List Reply)
    (i : Nat) (el : Rat) :
    (run none timeout jit (r :: rest) i el).attempts = [⟨el, attemptTimeout timeout el⟩] ∧
    (run none timeout jit (r :: rest) i el).waits = [] := by
  rw [run_none]
  exact ⟨rfl, rfl⟩

section Aux

/-- Retryable errors, then a reply `r` on which the loop stops whatever the clock: while the sum of the back-off
BOUNDS stays inside the deadline (so that the waits do, whatever the jitter) the loop makes one attempt and one
wait per error, and the attempt that gets `r` ends the call. -/
theorem run_retryable_prefix (p : Params) (hp : NonNeg p) (timeout : Option Rat) (jit : Nat → Rat)
    (hj : Jitter jit) (cs : List Code) (hc : ∀ c ∈ cs, p.retryable c = true) (r : Reply) (tail : List Reply)
    (res : Result)
    (hr : ∀ i el, run (some p) timeout jit (r :: tail) i el = ⟨[⟨el, attemptTimeout timeout el⟩], [], res⟩)
    (i : Nat) (el : Rat) (hw : ∀ D, p.deadline = some D → el + sumBounds p i cs.length ≤ D) :
    let t := run (some p) timeout jit (cs.map .err ++ r :: tail) i el
    t.result = res ∧ t.attempts.length = cs.length + 1 ∧ t.waits.length = cs.length := by
  induction cs generalizing i el with
  | nil => rw [List.map_nil, List.nil_append, hr]; exact ⟨rfl, rfl, rfl⟩
  | cons c cs ih =>
    have ⟨_, hw1⟩ := wait_le_bound p hp jit hj i
    have hsn := sumBounds_nonneg p hp (i + 1) cs.length
    have key D (hD : p.deadline = some D) : el + jit i * bound p i + sumBounds p (i + 1) cs.length ≤ D :=
      Rat.le_trans (by rw [Rat.add_assoc]; exact Rat.add_le_add_left.2 (Rat.add_le_add_right.2 hw1)) (hw D hD)
    have fit D (hD : p.deadline = some D) : el + jit i * bound p i ≤ D :=
      Rat.le_trans (by simpa [Rat.add_zero] using (Rat.add_le_add_left (c := el + jit i * bound p i)).2 hsn) (key D hD)
    have ⟨h1, h2, h3⟩ := ih (fun c h => hc c (List.mem_cons_of_mem _ h)) (i + 1) _ key
    rw [List.map_cons, List.cons_append, run_retry_step p timeout jit c _ i el (hc c List.mem_cons_self) fit]
    exact ⟨h1, congrArg (· + 1) h2, congrArg (· + 1) h3⟩

end Aux

/-- **`retryable^k` then `OK`, inside the deadline: exactly `k+1` attempts, `k` waits, success.**
"Inside the deadline" is stated on the upper bounds: the sum of the first `k` back-off bounds does not
exceed the deadline (or there is none). -/
theorem retry_on_exact_codes (p : Params) (hp : NonNeg p) (timeout : Option Rat) (jit : Nat → Rat)
    (hj : Jitter jit) (cs : List Code) (hc : ∀ c ∈ cs, p.retryable c = true) (tail : List Reply)
    (hw : ∀ D, p.deadline = some D → sumBounds p 0 cs.length ≤ D) :
    let t := run (some p) timeout jit (cs.map .err ++ .ok :: tail) 0 0
    t.result = .success ∧ t.attempts.length = cs.length + 1 ∧ t.waits.length = cs.length :=
  run_retryable_prefix p hp timeout jit hj cs hc .ok tail .success (fun _ _ => rfl) 0 0
    fun D hD => by rw [Rat.zero_add]; exact hw D hD

example : NonNeg (⟨1/4, 2, 3/2, [.serviceUnavailable], some 5⟩ : Params) ∧
    sumBounds ⟨1/4, 2, 3/2, [.serviceUnavailable], some 5⟩ 0 3 ≤ 5 := by
  refine ⟨⟨?_, ?_, ?_⟩, ?_⟩ <;> decide +kernel

/-- the DESIGN's wording: `faults = replicate k (err c) ++ [ok]` -/
theorem retry_on_exact_codes_replicate (p : Params) (hp : NonNeg p) (timeout : Option Rat) (jit : Nat → Rat)
    (hj : Jitter jit) (c : Code) (k : Nat) (hc : p.retryable c = true)
    (hw : ∀ D, p.deadline = some D → sumBounds p 0 k ≤ D) :
    (run (some p) timeout jit (List.replicate k (.err c) ++ [.ok]) 0 0).attempts.length = k + 1 := by
  have := retry_on_exact_codes p hp timeout jit hj (List.replicate k c)
    (fun c' h => by rw [List.eq_of_mem_replicate h]; exact hc) [] (by simpa using hw)
  simpa using this.2.1

theorem other_error_after_retries (p : Params) (hp : NonNeg p) (timeout : Option Rat) (jit : Nat → Rat)
    (hj : Jitter jit) (cs : List Code) (hcs : ∀ c ∈ cs, p.retryable c = true) (c : Code)
    (hc : p.retryable c = false) (tail : List Reply)
    (hw : ∀ D, p.deadline = some D → sumBounds p 0 cs.length ≤ D) :
    let t := run (some p) timeout jit (cs.map .err ++ .err c :: tail) 0 0
    t.result = .failed c ∧ t.attempts.length = cs.length + 1 ∧ t.waits.length = cs.length :=
  run_retryable_prefix p hp timeout jit hj cs hcs (.err c) tail (.failed c)
    (other_error_one_attempt p timeout jit c hc tail) 0 0 fun D hD => by rw [Rat.zero_add]; exact hw D hD

section Aux

theorem wait_eq (p : Params) (timeout : Option Rat) (jit : Nat → Rat) (replies : List Reply) (i : Nat) (el : Rat)
    (k : Nat) (w : Rat) (h : (run (some p) timeout jit replies i el).waits[k]? = some w) :
    w = jit (i + k) * bound p (i + k) := by
  induction replies generalizing i el k with
  | nil => simp [run] at h
  | cons r rest ih =>
    rcases run_cons p timeout jit r rest i el with ⟨_, e⟩ | ⟨_, _, e⟩ <;> rw [e] at h
    · simp at h
    · cases k with
      | zero => exact (Option.some.inj h).symm
      | succ k => rw [← Nat.add_assoc, Nat.add_right_comm]; exact ih (i + 1) _ k h

end Aux

/-- **Waits follow `initialBackoff`, `maxBackoff`, `backoffMultiplier`**: the `k`-th wait of any run is
non-negative and at most `min (initial * multiplier^k) maximum`. -/
theorem waits_bounded (p : Params) (hp : NonNeg p) (timeout : Option Rat) (jit : Nat → Rat) (hj : Jitter jit)
    (replies : List Reply) (i : Nat) (el : Rat) (k : Nat) (w : Rat)
    (h : (run (some p) timeout jit replies i el).waits[k]? = some w) :
    0 ≤ w ∧ w ≤ min (p.initial * p.multiplier ^ (i + k)) p.maximum := by
  obtain rfl := wait_eq p timeout jit replies i el k w h
  have ⟨h0, h1⟩ := wait_le_bound p hp jit hj (i + k)
  exact ⟨h0, Std.le_min_iff.2 ⟨Rat.le_trans h1 (bound_le_geometric p hp.2.2 _), Rat.le_trans h1 (bound_le_maximum p _)⟩⟩

/-- exactly one wait between two consecutive attempts, whatever happens (as long as the server's reply script
did not run out in the middle of the experiment) -/
theorem waits_between_attempts (retry : Option Params) (timeout : Option Rat) (jit : Nat → Rat)
    (replies : List Reply) (i : Nat) (el : Rat)
    (h : (run retry timeout jit replies i el).result ≠ .exhausted) :
    (run retry timeout jit replies i el).attempts.length =
      (run retry timeout jit replies i el).waits.length + 1 := by
  induction replies generalizing i el with
  | nil => exact absurd rfl h
  | cons r rest ih =>
    cases retry with
    | none => rw [run_none]; rfl
    | some p =>
      rcases run_cons p timeout jit r rest i el with ⟨_, e⟩ | ⟨_, _, e⟩ <;> rw [e] at h ⊢
      · rfl
      · exact congrArg (· + 1) (ih _ _ h)

def exP' : Params := ⟨1/4, 2, 3/2, [.serviceUnavailable], some 5⟩

example : (run (some exP') none (fun _ => 1) [.err .unavailable, .ok] 0 0).result ≠ .exhausted := by
  decide +kernel

/-- the longest prefix of replies that are retryable errors -/
def retryablePrefix (p : Params) (replies : List Reply) : List Reply :=
  replies.takeWhile fun r => match r with | .ok => false | .err c => p.retryable c

/-- **Never more attempts than the statement allows**: at most one per leading retryable error plus the
attempt that ends the call — with or without a deadline, for any jitter. (Together with
`retry_on_exact_codes` / `other_error_after_retries`: exactly that many inside the deadline.) -/
theorem attempts_le_retryable_prefix (p : Params) (timeout : Option Rat) (jit : Nat → Rat)
    (replies : List Reply) (i : Nat) (el : Rat) :
    (run (some p) timeout jit replies i el).attempts.length ≤ (retryablePrefix p replies).length + 1 := by
  induction replies generalizing i el with
  | nil => exact Nat.zero_le _
  | cons r rest ih =>
    rcases run_cons p timeout jit r rest i el with ⟨_, e⟩ | ⟨⟨c, rfl, hc⟩, _, e⟩ <;> rw [e]
    · exact Nat.le_add_left ..
    · simp only [retryablePrefix, List.takeWhile_cons, hc, if_true, List.length_cons]
      exact Nat.succ_le_succ (ih (i + 1) _)

section Aux

theorem attemptTimeout_zero (t : Option Rat) : attemptTimeout t 0 = t := by
  cases t with
  | none => rfl
  | some T => simp [attemptTimeout, Rat.sub_eq_add_neg, Rat.add_zero]

theorem run_head_attempt (retry : Option Params) (timeout : Option Rat) (jit : Nat → Rat) (r : Reply)
    (rest : List Reply) (i : Nat) (el : Rat) :
    (run retry timeout jit (r :: rest) i el).attempts.head? = some ⟨el, attemptTimeout timeout el⟩ := by
  cases retry with
  | none => rw [run_none]; rfl
  | some p => rcases run_cons p timeout jit r rest i el with ⟨_, e⟩ | ⟨_, _, e⟩ <;> rw [e] <;> rfl

end Aux

/-- **The first attempt of a default call carries the entry's timeout as its deadline**; every attempt
carries a deadline iff the entry has a timeout, and never more than it. -/
theorem first_attempt_carries_timeout (e : Emitted) (jit : Nat → Rat) (r : Reply) (rest : List Reply) :
    (call e .default .default jit (r :: rest)).attempts.head? = some ⟨0, e.timeout⟩ :=
  (run_head_attempt _ _ jit r rest 0 0).trans (by rw [attemptTimeout_zero]; rfl)

theorem attempt_timeout_le (T el : Rat) (hel : 0 ≤ el) :
    ∃ d, attemptTimeout (some T) el = some d ∧ d ≤ T ∧ (d = T ∨ (d = T - el ∧ 1 ≤ d)) := by
  simp only [attemptTimeout, Option.map_some]
  split
  · exact ⟨T, rfl, Rat.le_refl, Or.inl rfl⟩
  · exact ⟨T - el, rfl, by grind, Or.inr ⟨rfl, Rat.not_lt.1 ‹_›⟩⟩

/-- **The timeout is the overall retry deadline**: no wait is ever requested that would end after it — a
retryable error whose back-off would cross it ends the call instead (`deadline_exceeded_stops`). -/
theorem deadline_respected (p : Params) (timeout : Option Rat) (jit : Nat → Rat)
    (D : Rat) (hD : p.deadline = some D) (replies : List Reply) (i : Nat) (el : Rat) (hel : el ≤ D) :
    el + (run (some p) timeout jit replies i el).waits.sum ≤ D := by
  induction replies generalizing i el with
  | nil => simpa [run, Rat.add_zero] using hel
  | cons r rest ih =>
    rcases run_cons p timeout jit r rest i el with ⟨_, e⟩ | ⟨_, hfit, e⟩ <;> simp only [e, Trace.retried]
    · simpa [Rat.add_zero] using hel
    · simpa [List.sum_cons, Rat.add_assoc] using ih (i + 1) _ (hfit D hD)

/-- without a deadline (`timeout` absent from the entry) retrying never gives up by itself -/
theorem no_deadline_never_retry_error (p : Params) (hD : p.deadline = none) (timeout : Option Rat)
    (jit : Nat → Rat) (replies : List Reply) (i : Nat) (el : Rat) (c : Code) :
    (run (some p) timeout jit replies i el).result ≠ .retryError c := by
  induction replies generalizing i el with
  | nil => nofun
  | cons r rest ih =>
    cases r with
    | ok => nofun
    | err c' =>
      cases hc : p.retryable c' with
      | false => rw [other_error_one_attempt p timeout jit c' hc]; nofun
      | true => rw [run_retry_step p timeout jit c' rest i el hc (by simp [hD])]; exact ih _ _

/-- **An explicit `retry=` / `timeout=` overrides the default**: the call then does not depend on the
table entry at all … -/
theorem explicit_overrides_default (e e' : Emitted) (r : Option Params) (t : Option Rat)
    (jit : Nat → Rat) (replies : List Reply) :
    call e (.given r) (.given t) jit replies = call e' (.given r) (.given t) jit replies := rfl

/-- … each argument independently: an explicit retry keeps the default timeout and vice versa … -/
theorem explicit_each_independent (e : Emitted) (r : Option Params) (t : Option Rat)
    (jit : Nat → Rat) (replies : List Reply) :
    call e (.given r) .default jit replies = run r e.timeout jit replies 0 0 ∧
    call e .default (.given t) jit replies = run (e.retry.map effective) t jit replies 0 0 := ⟨rfl, rfl⟩

/-- … `retry=None` means a single attempt whatever the entry says, and an explicit timeout is the
deadline the attempt carries. -/
theorem explicit_none_single_attempt (e : Emitted) (t : Option Rat) (jit : Nat → Rat) (r : Reply) (rest : List Reply) :
    (call e (.given none) (.given t) jit (r :: rest)).attempts = [⟨0, t⟩] := by
  rw [call, Arg.resolve, Arg.resolve, run_none, attemptTimeout_zero]

/-- of several `retry-config=` options the last file is the one that counts … -/
theorem last_retry_config_wins (cs : List ServiceConfig) (c : ServiceConfig) : optsRetry (cs ++ [c]) = c := by
  simp [optsRetry]

/-- … and without the option every method is unnamed. -/
theorem no_retry_config_all_unnamed (svc meth : String) :
    methodDefaults (optsRetry []) svc meth = .ok (none, none) := rfl

section Aux

theorem ownEntries_spec (cfg : ServiceConfig) (svc : String) (ms : List String) (own : List (String × Emitted))
    (h : ownEntries cfg svc ms = .ok own) :
    own.map (·.1) = ms ∧ ∀ m ∈ ms, ∃ d, methodDefaults cfg svc m = .ok d ∧ (m, emittedDefaults d) ∈ own := by
  induction ms generalizing own with
  | nil => cases h; exact ⟨rfl, nofun⟩
  | cons m ms ih =>
    rw [ownEntries] at h
    cases hd : methodDefaults cfg svc m with
    | error x => rw [hd] at h; cases h
    | ok d =>
      cases hrest : ownEntries cfg svc ms with
      | error x => rw [hd, hrest] at h; cases h
      | ok rest =>
        rw [hd, hrest] at h
        cases h
        obtain ⟨h1, h2⟩ := ih rest hrest
        exact ⟨congrArg (m :: ·) h1, List.forall_mem_cons.2 ⟨⟨d, hd, List.mem_cons_self⟩,
          fun m' hm' => (h2 m' hm').imp fun _ h => ⟨h.1, List.mem_cons_of_mem _ h.2⟩⟩⟩

end Aux

/-- **The whole `_wrapped_methods` table**: one entry per RPC of the service, in order, carrying exactly that
method's defaults, followed by one entry per mixin RPC — and a mixin entry has no default retry and no default
timeout WHATEVER the service config says (also when an entry names `google.longrunning.Operations/GetOperation`). -/
theorem wrapped_table_spec (cfg : ServiceConfig) (svc : String) (methods mixins : List String)
    (tab : List (String × Emitted)) (h : wrappedTable cfg svc methods mixins = .ok tab) :
    tab.map (·.1) = methods ++ mixins ∧
    (∀ m ∈ methods, ∃ d, methodDefaults cfg svc m = .ok d ∧ (m, emittedDefaults d) ∈ tab) ∧
    (∀ m ∈ mixins, (m, mixinEntry) ∈ tab) := by
  rw [wrappedTable] at h
  cases hown : ownEntries cfg svc methods with
  | error x => rw [hown] at h; cases h
  | ok own =>
    rw [hown] at h
    cases h
    obtain ⟨h1, h2⟩ := ownEntries_spec cfg svc methods own hown
    exact ⟨by simp [h1, Function.comp_def],
      fun m hm => (h2 m hm).imp fun _ h => ⟨h.1, List.mem_append_left _ h.2⟩,
      fun m hm => List.mem_append_right _ (List.mem_map.2 ⟨m, hm, rfl⟩)⟩

/-- a mixin call made with defaults: one attempt, no deadline, no wait -/
theorem mixin_single_attempt_no_deadline (jit : Nat → Rat) (r : Reply) (rest : List Reply) :
    call mixinEntry .default .default jit (r :: rest) =
      ⟨[⟨0, none⟩], [], match r with | .ok => .success | .err c => .failed c⟩ :=
  run_none none jit r rest 0 0

def exCfg : ServiceConfig :=
  [⟨[⟨some "a.B", none⟩, ⟨some "a.B", some "Get"⟩], some "5s".toList,
      some ⟨some 4, some "0.25s".toList, some "2s".toList, some (3/2), ["UNAVAILABLE", "UNAVAILABLE"]⟩⟩,
   ⟨[⟨some "a.B", some "Put"⟩, ⟨some "a.B", some "Get"⟩], some "7.5s".toList, none⟩]

def exP : Params := ⟨1/4, 2, 3/2, [.serviceUnavailable], some 5⟩

/-- hypotheses of `emitted_params_exact` / `timeout_without_retry` / `select_named_first` -/
example : selectConfig exCfg "a.B" "Get" = exCfg[0]? ∧ selectConfig exCfg "a.B" "Put" = exCfg[1]? ∧
    selectConfig exCfg "a.B" "Other" = none ∧
    toFloat? "0.25s".toList = some (1/4) ∧
    (classesOf ["UNAVAILABLE", "UNAVAILABLE"]).toOption = some [.serviceUnavailable, .serviceUnavailable] ∧
    ((methodDefaults exCfg "a.B" "Get").map emittedDefaults).toOption =
      some ⟨some ⟨some (1/4), some 2, some (3/2), [.serviceUnavailable], some 5⟩, some 5⟩ ∧
    ((methodDefaults exCfg "a.B" "Put").map emittedDefaults).toOption = some ⟨none, some (15/2)⟩ := by
  decide +kernel

example : Jitter (fun _ => 1) ∧ Jitter (fun _ => 1/2) :=
  ⟨fun _ => by show (0 : Rat) ≤ 1 ∧ (1 : Rat) ≤ 1; decide +kernel,
   fun _ => by show (0 : Rat) ≤ 1/2 ∧ (1/2 : Rat) ≤ 1; decide +kernel⟩

/-- hypotheses of the loop theorems: non-negative parameters, retryable / not retryable codes, a budget
inside the deadline, a wait that exists, a back-off that crosses the deadline -/
example : NonNeg exP ∧
    (∀ c ∈ [Code.unavailable, Code.unavailable], exP.retryable c = true) ∧ exP.retryable .notFound = false ∧
    exP.deadline = some 5 ∧ sumBounds exP 0 2 ≤ 5 ∧ 1 ≤ exP.multiplier ∧
    (run (some exP) (some 5) (fun _ => 1) [.err .unavailable, .err .unavailable, .ok] 0 0).waits[1]? = some (3/8) ∧
    (run (some exP) (some 5) (fun _ => 1) (List.replicate 9 (.err .unavailable)) 0 0).result = .retryError .unavailable := by
  refine ⟨⟨?_, ?_, ?_⟩, ?_, ?_, ?_, ?_, ?_, ?_, ?_⟩ <;> decide +kernel

/-- hypothesis of `wrapped_table_spec`: a table that exists, with a mixin RPC the config names -/
example : (wrappedTable (exCfg ++ [⟨[⟨some "google.longrunning.Operations", some "GetOperation"⟩], some ['9', 's'], none⟩])
      "a.B" ["Get", "Put", "Other"] ["GetOperation"]).toOption =
    some [("Get", ⟨some ⟨some (1/4), some 2, some (3/2), [.serviceUnavailable], some 5⟩, some 5⟩),
          ("Put", ⟨none, some (15/2)⟩), ("Other", ⟨none, none⟩), ("GetOperation", ⟨none, none⟩)] := by
  decide +kernel

end GapicModel.Props.C09
