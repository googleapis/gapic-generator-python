import GapicModel.Lemmas.WrapWords
import GapicModel.Lemmas.Textwrap
/-
C20 — `textwrap.wrap` and `textwrap.fill` at the STRING level.  `TextWrapper._split` yields a chunk list that alternates
between ASCII whitespace and the rest (`AltFrom`, `chunks_alt`); `textwrapWrap_some` says what `textwrap.wrap` returns:
lines cut (`Lemmas.Textwrap.Cut`, the invariant of the chunk loop) out of that list, each rendered behind its indent;
`fill_words`: the words (`str.split()`) of the filled text are the words of the input.
-/
namespace GapicModel.Lemmas.TextwrapWords
open GapicModel.Model.Wrap GapicModel.Lemmas.Words GapicModel.Lemmas.WrapWords
open GapicModel.Lemmas.MapRuns (AllWs)
open GapicModel.Lemmas.Textwrap (AllBlank Cut wrapCur_cut_all)

/-- a homogeneous chunk: non-empty, all of its characters of ASCII-whitespace class `k` -/
def Hom (k : Bool) (c : Str) : Prop := c ≠ [] ∧ ∀ x ∈ c, isAsciiWs x = k

/-- homogeneous chunks of alternating class, the first of class `k`: what `TextWrapper._split` returns -/
def AltFrom : Bool → List Str → Prop
  | _, [] => True
  | k, c :: r => Hom k c ∧ AltFrom (!k) r

/-- a non-empty chunk of ASCII whitespace -/
def WsChunk (c : Str) : Prop := Hom true c

/-- of two neighbouring chunks one is whitespace -/
def Alt : List Str → Prop
  | [] => True
  | [_] => True
  | a :: b :: r => (WsChunk a ∨ WsChunk b) ∧ Alt (b :: r)

theorem chunksAux_flatten (s cur : Str) (k : Bool) : (chunksAux s cur k).flatten = cur.reverse ++ s := by
  fun_induction chunksAux s cur k <;> simp_all

theorem chunks_flatten (s : Str) : (chunks s).flatten = s := by
  simp [chunks, chunksAux_flatten]

theorem chunksAux_alt (s cur : Str) (k : Bool) (hne : cur ≠ []) (hk : ∀ x ∈ cur, isAsciiWs x = k) :
    AltFrom k (chunksAux s cur k) := by
  have hom {cur : Str} {k} (hne : cur ≠ []) (hk : ∀ x ∈ cur, isAsciiWs x = k) : Hom k cur.reverse :=
    ⟨by simpa using hne, fun x hx => hk x (List.mem_reverse.mp hx)⟩
  fun_induction chunksAux s cur k with
  | case1 | case3 => exact absurd rfl hne
  | case2 => exact ⟨hom hne hk, trivial⟩
  | case4 c cs cur _ ih => exact ih (by simp) (by simpa using hk)
  | case5 c cs cur k _ hc ih =>
    have hk' : isAsciiWs c = !k := by cases k <;> simpa using hc
    exact ⟨hom hne hk, hk' ▸ ih (by simp) (by simp)⟩

theorem chunks_alt (s : Str) : ∃ k, AltFrom k (chunks s) := by
  cases s with
  | nil => exact ⟨false, by simp [chunks, chunksAux, AltFrom]⟩
  | cons c cs =>
    refine ⟨isAsciiWs c, ?_⟩
    exact chunksAux_alt cs [c] (isAsciiWs c) (by simp) (by simp)

theorem AltFrom.alt : ∀ {k : Bool} {cs : List Str}, AltFrom k cs → Alt cs
  | _, [], _ => trivial
  | _, [_], _ => trivial
  | k, a :: b :: r, h => by
    obtain ⟨ha, hb, hr⟩ := h
    refine ⟨?_, AltFrom.alt (k := !k) ⟨hb, hr⟩⟩
    cases k
    · right; simpa [WsChunk] using hb
    · left; exact ha

theorem AltFrom.hom : ∀ {k : Bool} {cs : List Str}, AltFrom k cs → ∀ c ∈ cs, ∃ k', Hom k' c
  | k, a :: r, h, c, hc => by
    rcases List.mem_cons.mp hc with e | e
    · subst e; exact ⟨k, h.1⟩
    · exact AltFrom.hom h.2 c e

theorem Hom.unique {k k' : Bool} {c : Str} (h : Hom k c) (h' : Hom k' c) : k = k' := by
  obtain ⟨a, _, rfl⟩ := List.exists_cons_of_ne_nil h.1
  exact (h.2 a List.mem_cons_self).symm.trans (h'.2 a List.mem_cons_self)

theorem AltFrom.next {kx : Bool} {x y : Str} {b : List Str} (hx : Hom kx x) : ∀ {k : Bool} {a : List Str},
    AltFrom k (a ++ x :: y :: b) → Hom (!kx) y
  | _, [], h => Hom.unique hx h.1 ▸ h.2.1
  | _, _ :: a, h => AltFrom.next hx (a := a) h.2

theorem WsChunk.blank {c : Str} (h : WsChunk c) : AllWs (isWs T) c := fun x hx => asciiWs_ws x (h.2 x hx)

theorem Hom.blank_of_true {c : Str} (h : Hom true c) : isBlank T c = true :=
  (isBlank_iff c).mpr (WsChunk.blank h)

theorem Alt.tail : ∀ {a : Str} {cs : List Str}, Alt (a :: cs) → Alt cs
  | _, [], _ => trivial
  | _, _ :: _, h => h.2

theorem Alt.append_left : ∀ {a b : List Str}, Alt (a ++ b) → Alt a
  | [], _, _ => trivial
  | [_], _, _ => trivial
  | x :: y :: r, b, h => by
    have h' : Alt (x :: y :: (r ++ b)) := h
    exact ⟨h'.1, Alt.append_left (a := y :: r) (b := b) h'.2⟩

theorem Alt.append_right : ∀ {a b : List Str}, Alt (a ++ b) → Alt b
  | [], _, h => h
  | _ :: r, b, h => Alt.append_right (a := r) (b := b) (Alt.tail h)

/-- across a cut of an alternating chunk list: the chunk before the cut or the chunk after it is whitespace -/
theorem Alt.cut : ∀ {a : List Str} {x y : Str} {b : List Str}, Alt (a ++ x :: y :: b) → WsChunk x ∨ WsChunk y
  | [], _, _, _, h => h.1
  | _ :: r, _, _, _, h => Alt.cut (a := r) (Alt.tail h)

theorem alt_words : ∀ (cs : List Str), Alt cs → words T cs.flatten = (cs.map (words T)).flatten
  | [], _ => by simp [words_nil]
  | [a], _ => by simp
  | a :: b :: r, h => by
    have ih := alt_words (b :: r) h.2
    show words T (a ++ (b :: r).flatten) = words T a ++ ((b :: r).map (words T)).flatten
    rw [← ih]
    rcases h.1 with ha | hb
    · rw [words_blank_append T a ha.blank, words_blank T a ha.blank]; rfl
    · rw [List.flatten_cons, ← List.append_assoc, words_append_blank_append T a b _ hb.blank hb.1,
        words_blank_append T b hb.blank]

theorem words_renderLines (ii si : Str) (hii : AllWs (isWs T) ii) (hsi : AllWs (isWs T) si) (ls : List (List Str)) :
    ((renderLines ii si ls).map (words T)).flatten = (ls.map (fun l => words T l.flatten)).flatten := by
  cases ls with
  | nil => rfl
  | cons l ls =>
    simp only [renderLines, List.map_cons, List.flatten_cons, List.map_map]
    rw [words_blank_append T ii hii]
    congr 2
    apply List.map_congr_left
    intro x _
    exact words_blank_append T si hsi _

theorem AllBlank.map_words {b : List Str} (h : AllBlank T b) : (b.map (words T)).flatten = [] := by
  simp only [List.flatten_eq_nil_iff, List.mem_map]
  rintro _ ⟨c, hc, rfl⟩
  exact words_blank T c ((isBlank_iff c).mp (h c hc))

theorem Cut.words {ok first cs ls} (h : Cut T ok first cs ls) (halt : Alt cs) :
    (ls.map fun l => words T l.flatten).flatten = words T cs.flatten := by
  induction h with
  | nil h0 => rw [alt_words _ halt, AllBlank.map_words h0]; rfl
  | @cons _ b1 l b2 rest _ h1 _ _ h2 _ _ ih =>
    have hl : Alt l := (halt.append_left).append_right
    have hr : Alt rest := (halt.append_right).append_right
    rw [alt_words _ halt]
    simp only [List.map_append, List.flatten_append, AllBlank.map_words h1, AllBlank.map_words h2, List.nil_append,
      List.map_cons, List.flatten_cons, ih hr, alt_words l hl, alt_words rest hr]

/-- `textwrap` raises ValueError("invalid width") and nothing else -/
theorem textwrapWrap_eq_none {text : Str} {width : Int} {ii si : Str} :
    textwrapWrap T text width ii si = none ↔ width ≤ 0 := by
  unfold textwrapWrap; split <;> simp [*]

/-- **what `textwrap.wrap` returns**: the lines cut by `_wrap_chunks` out of the alternating chunk list of the
munged text, each rendered behind its indent -/
theorem textwrapWrap_some {text : Str} {width : Int} {ii si : Str} {out : List Str}
    (h : textwrapWrap T text width ii si = some out) :
    ∃ k cs ls, AltFrom k cs ∧ cs.flatten = munge text ∧ out = renderLines ii si ls ∧
      Cut T (fun f => Textwrap.Fits T (width.toNat - if f then ii.length else si.length)) true cs ls := by
  rw [textwrapWrap] at h
  split at h
  · cases h
  · obtain ⟨k, hk⟩ := chunks_alt (munge text)
    exact ⟨k, _, _, hk, chunks_flatten _, (Option.some.inj h).symm, wrapCur_cut_all T _ _ _ _ true _ (Nat.lt_succ_self _)⟩

theorem fill_words (text : Str) (width : Int) (ii si : Str) (hii : AllWs (isWs T) ii) (hsi : AllWs (isWs T) si) (out : Str)
    (h : textwrapFill T text width ii si = some out) : words T out = words T text := by
  obtain ⟨_, hls, rfl⟩ := Option.map_eq_some_iff.mp h
  obtain ⟨k, cs, ls, halt, hflat, rfl, hcut⟩ := textwrapWrap_some hls
  rw [words_joinWith_nl, words_renderLines ii si hii hsi, Cut.words hcut halt.alt, hflat]
  exact Lemmas.CodeLines.Ctx.eq (munge_eqv text)

end GapicModel.Lemmas.TextwrapWords
