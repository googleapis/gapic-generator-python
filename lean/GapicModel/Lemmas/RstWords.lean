import GapicModel.Lemmas.WrapWords
/-
C20 — the plain-text fast path of `gapic.utils.rst.rst`: what follows `wrap` there (`rstTail`) keeps the words of an answer
without double quotes and backslashes (`Props.C20.plain_comment_words_reach_docstring` puts it behind `wrap`).
-/
namespace GapicModel.Lemmas.RstWords
open GapicModel.Model.Wrap GapicModel.Lemmas.Words GapicModel.Lemmas.WrapWords

theorem replaceTQ_id (s : Str) (h : '"' ∉ s) : replaceTQ s = s := by
  fun_induction replaceTQ s <;> simp_all

/-- the tail of `rst()` adds only whitespace to an answer without double quotes and backslashes -/
theorem rstTail_words (answer : Str) (indent : Nat) (nl : Option Bool) (hq : '"' ∉ answer) (hb : '\\' ∉ answer) :
    words T (rstTail answer indent nl) = words T answer := by
  unfold rstTail
  simp only
  generalize hans : (if nl = some true ∨ (answer.contains '\n' = true ∧ nl = none) then
    answer ++ ['\n'] ++ List.replicate indent ' ' else answer) = answer'
  obtain ⟨b, rfl, hbl⟩ : ∃ b, answer' = answer ++ b ∧ ∀ c ∈ b, c = '\n' ∨ c = ' ' := by
    rw [← hans]; split
    · exact ⟨'\n' :: List.replicate indent ' ', by simp,
        fun c hc => (List.mem_cons.mp hc).imp_right List.eq_of_mem_replicate⟩
    · exact ⟨[], by simp, fun _ h => nomatch h⟩
  have hmem : ∀ x, x ∉ answer → x ≠ '\n' → x ≠ ' ' → x ∉ answer ++ b := fun x h1 h2 h3 hm =>
    (List.mem_append.mp hm).elim h1 fun h => (hbl x h).elim h2 h3
  have hq' := hmem '"' hq (by decide) (by decide)
  have hb' := hmem '\\' hb (by decide) (by decide)
  rw [replaceTQ_id _ hq', if_neg fun hl =>
    hl.elim (fun h => hq' (List.mem_of_getLast? h)) fun h => hb' (List.mem_of_getLast? h)]
  exact words_append_blank T answer b fun c hc => (hbl c hc).elim (· ▸ ws_nl) (· ▸ ws_sp)

end GapicModel.Lemmas.RstWords
