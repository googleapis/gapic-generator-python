/-
Run-local rewriting of the maximal whitespace runs of a text ("mapRuns"), generic in the whitespace predicate.

`mapRuns ws h s` replaces every maximal run `R` of whitespace in `s` by `h R la`, where `la` is the token (maximal
run of non-whitespace) that follows it (`[]` at the end of the text); everything else is copied.  The three `re.sub`
passes of `fix_whitespace` are of this form (Lemmas/FixWsRuns.lean), and for rewriters that keep runs non-empty
and white the composition of two passes is again one pass (`mapRuns_comp`) and `rstrip` commutes with a pass
(`rstripW_mapRuns`), which reduces idempotence of the whole function to idempotence of the per-run rewriter
(`tail_mapRuns_idem`).
-/
namespace GapicModel.Lemmas.MapRuns

variable (ws : Char → Bool)

theorem length_dropWhile_le' (p : Char → Bool) (l : List Char) : (l.dropWhile p).length ≤ l.length :=
  (List.dropWhile_sublist p).length_le

def mapRuns (h : List Char → List Char → List Char) : List Char → List Char
  | [] => []
  | c :: cs =>
    if ws c then
      h (c :: cs.takeWhile ws) ((cs.dropWhile ws).takeWhile (fun d => !ws d)) ++ mapRuns h (cs.dropWhile ws)
    else c :: mapRuns h cs
termination_by s => s.length
decreasing_by
  · simp only [List.length_cons]
    have := length_dropWhile_le' ws cs
    omega
  · simp

abbrev AllWs (w : List Char) : Prop := ∀ c ∈ w, ws c = true
/-- empty or starting with a non-white character -/
abbrev StartsNonWs (x : List Char) : Prop := ∀ c, x.head? = some c → ws c = false
/-- empty or ending with a non-white character -/
abbrev EndsNonWs (x : List Char) : Prop := ∀ c, x.getLast? = some c → ws c = false

/-- the rewriter keeps runs non-empty and white (so token boundaries survive a pass) -/
def WsPres (h : List Char → List Char → List Char) : Prop :=
  ∀ R la, R ≠ [] → AllWs ws R → h R la ≠ [] ∧ AllWs ws (h R la)

variable {ws}

theorem WsPres.comp {h h'} (hp : WsPres ws h) (hp' : WsPres ws h') : WsPres ws (fun R la => h (h' R la) la) :=
  fun R la hne hR => (hp' R la hne hR).elim (hp _ la)

theorem allWs_nil : AllWs ws [] := fun _ h => nomatch h

theorem allWs_cons {c : Char} {a : List Char} (hc : ws c = true) (ha : AllWs ws a) : AllWs ws (c :: a) :=
  fun d hd => (List.mem_cons.mp hd).elim (fun e => e ▸ hc) (ha d)

theorem allWs_append {a b : List Char} (ha : AllWs ws a) (hb : AllWs ws b) : AllWs ws (a ++ b) :=
  fun c hc => (List.mem_append.mp hc).elim (ha c) (hb c)

theorem allWs_replicate (c : Char) (hc : ws c = true) (n : Nat) : AllWs ws (List.replicate n c) :=
  fun _ hx => List.eq_of_mem_replicate hx ▸ hc

theorem takeWhile_allWs (cs : List Char) : AllWs ws (cs.takeWhile ws) := List.all_eq_true.mp List.all_takeWhile

theorem dropWhile_startsNonWs (cs : List Char) : StartsNonWs ws (cs.dropWhile ws) := by
  intro c hc
  have := List.head?_dropWhile_not ws cs
  rwa [hc] at this

theorem takeWhile_allws_append {w nx : List Char} (hw : AllWs ws w) (hn : StartsNonWs ws nx) :
    (w ++ nx).takeWhile ws = w ∧ (w ++ nx).dropWhile ws = nx := by
  rw [List.takeWhile_append_of_pos hw, List.dropWhile_append_of_pos hw]
  cases nx with
  | nil => simp
  | cons d r => simp [hn d rfl]

theorem takeWhile_nonws_run {R : List Char} (hne : R ≠ []) (hR : AllWs ws R) (x : List Char) :
    (R ++ x).takeWhile (fun d => !ws d) = [] := by
  cases R with
  | nil => exact absurd rfl hne
  | cons c R => simp [hR c List.mem_cons_self]

theorem takeWhile_nonws_append_ws {nx W : List Char} (hW : AllWs ws W) :
    (nx ++ W).takeWhile (fun d => !ws d) = nx.takeWhile (fun d => !ws d) := by
  induction nx with
  | nil =>
    cases W with
    | nil => rfl
    | cons d r => simp [hW d (by simp)]
  | cons c cs ih => simp only [List.cons_append, List.takeWhile_cons, ih]

@[simp] theorem mapRuns_nil (h) : mapRuns ws h [] = [] := by simp [mapRuns]

theorem mapRuns_nonws_cons (h) {c : Char} (cs : List Char) (hc : ws c = false) :
    mapRuns ws h (c :: cs) = c :: mapRuns ws h cs := by
  rw [mapRuns]; simp [hc]

theorem mapRuns_ws_cons (h) {c : Char} (cs : List Char) (hc : ws c = true) :
    mapRuns ws h (c :: cs) =
      h (c :: cs.takeWhile ws) ((cs.dropWhile ws).takeWhile (fun d => !ws d)) ++ mapRuns ws h (cs.dropWhile ws) := by
  rw [mapRuns]; simp [hc]

theorem mapRuns_run_append (h) {R nx : List Char} (hR : R ≠ []) (hw : AllWs ws R) (hn : StartsNonWs ws nx) :
    mapRuns ws h (R ++ nx) = h R (nx.takeWhile (fun d => !ws d)) ++ mapRuns ws h nx := by
  cases R with
  | nil => exact absurd rfl hR
  | cons c w =>
    have hc : ws c = true := hw c (by simp)
    have := takeWhile_allws_append (ws := ws) (w := w) (nx := nx) (fun d hd => hw d (by simp [hd])) hn
    rw [List.cons_append, mapRuns_ws_cons h _ hc, this.1, this.2]

theorem mapRuns_nonws_append (h) {K : List Char} (hK : ∀ c ∈ K, ws c = false) (r : List Char) :
    mapRuns ws h (K ++ r) = K ++ mapRuns ws h r := by
  induction K with
  | nil => simp
  | cons c K ih =>
    rw [List.cons_append, mapRuns_nonws_cons h _ (hK c (by simp)), ih (fun d hd => hK d (by simp [hd]))]
    rfl

/-- when the rewriter leaves a run and all its suffixes alone, the pass copies the run's first character -/
theorem mapRuns_skip_ws (h) {c : Char} {cs : List Char} (hc : ws c = true)
    (hid : ∀ R, R <:+ (c :: cs.takeWhile ws) → h R ((cs.dropWhile ws).takeWhile (fun d => !ws d)) = R) :
    mapRuns ws h (c :: cs) = c :: mapRuns ws h cs := by
  rw [mapRuns_ws_cons h _ hc, hid _ (List.suffix_refl _)]
  cases cs with
  | nil => rfl
  | cons d r =>
    by_cases hd : ws d = true
    · simp only [List.takeWhile_cons_of_pos hd, List.dropWhile_cons_of_pos hd] at hid ⊢
      rw [mapRuns_ws_cons h _ hd, hid _ (List.suffix_cons _ _)]
      rfl
    · simp [hd]

/-- a text is empty, a non-white character before a text, or a non-empty white run before a text that does not
start white: the recursion of `mapRuns` as an induction principle -/
theorem runs_induction {P : List Char → Prop} (nil : P [])
    (tok : ∀ c cs, ws c = false → P cs → P (c :: cs))
    (run : ∀ R nx, R ≠ [] → AllWs ws R → StartsNonWs ws nx → P nx → P (R ++ nx)) : ∀ s, P s := by
  intro s
  induction s using mapRuns.induct (ws := ws) with
  | case1 => exact nil
  | case2 c cs hc ih =>
    simpa using run (c :: cs.takeWhile ws) (cs.dropWhile ws) (by simp) (allWs_cons hc (takeWhile_allWs cs))
      (dropWhile_startsNonWs cs) ih
  | case3 c cs hc ih => exact tok c cs (by simpa using hc) ih

theorem mapRuns_token {h} (hp : WsPres ws h) (s : List Char) :
    (mapRuns ws h s).takeWhile (fun d => !ws d) = s.takeWhile (fun d => !ws d) := by
  induction s using runs_induction (ws := ws) with
  | nil => simp
  | tok c cs hc ih => simp [mapRuns_nonws_cons h _ hc, hc, ih]
  | run R nx hne hR hnx _ =>
    obtain ⟨hne', hR'⟩ := hp R (nx.takeWhile (fun d => !ws d)) hne hR
    rw [mapRuns_run_append h hne hR hnx, takeWhile_nonws_run hne hR, takeWhile_nonws_run hne' hR']

theorem mapRuns_startsNonWs (h) {s : List Char} (hs : StartsNonWs ws s) : StartsNonWs ws (mapRuns ws h s) := by
  cases s with
  | nil => rwa [mapRuns_nil]
  | cons d r => rw [mapRuns_nonws_cons h _ (hs d rfl)]; exact hs

theorem mapRuns_comp {h h'} (hp : WsPres ws h') (s : List Char) :
    mapRuns ws h (mapRuns ws h' s) = mapRuns ws (fun R la => h (h' R la) la) s := by
  induction s using runs_induction (ws := ws) with
  | nil => simp
  | tok c cs hc ih => rw [mapRuns_nonws_cons h' _ hc, mapRuns_nonws_cons h _ hc, mapRuns_nonws_cons _ _ hc, ih]
  | run R nx hne hR hnx ih =>
    obtain ⟨hne', hall⟩ := hp R (nx.takeWhile (fun d => !ws d)) hne hR
    rw [mapRuns_run_append h' hne hR hnx, mapRuns_run_append _ hne hR hnx,
      mapRuns_run_append h hne' hall (mapRuns_startsNonWs h' hnx), mapRuns_token hp, ih]

theorem mapRuns_fuse {h h'} (hp : WsPres ws h') : ∀ (n : Nat) (s : List Char), s.length ≤ n →
    mapRuns ws h (mapRuns ws h' s) = mapRuns ws (fun R la => h (h' R la) la) s :=
  fun _ s _ => mapRuns_comp hp s

theorem mapRuns_congr {h h'} (he : ∀ R la, R ≠ [] → AllWs ws R → h R la = h' R la) (s : List Char) :
    mapRuns ws h s = mapRuns ws h' s := by
  induction s using runs_induction (ws := ws) with
  | nil => simp
  | tok c cs hc ih => rw [mapRuns_nonws_cons h _ hc, mapRuns_nonws_cons h' _ hc, ih]
  | run R nx hne hR hnx ih => rw [mapRuns_run_append h hne hR hnx, mapRuns_run_append h' hne hR hnx, he _ _ hne hR, ih]

/-! `str.rstrip()` and the final `rstrip() + "\n"` -/

def rstripW (ws : Char → Bool) (s : List Char) : List Char := (s.reverse.dropWhile ws).reverse

theorem rstripW_endsNonWs (s : List Char) : EndsNonWs ws (rstripW ws s) := by
  intro c hc
  rw [rstripW, List.getLast?_reverse] at hc
  exact dropWhile_startsNonWs s.reverse c hc

theorem rstripW_split (s : List Char) :
    ∃ W, s = rstripW ws s ++ W ∧ AllWs ws W ∧ EndsNonWs ws (rstripW ws s) := by
  refine ⟨(s.reverse.takeWhile ws).reverse, ?_, ?_, rstripW_endsNonWs s⟩
  · rw [rstripW, ← List.reverse_append, List.takeWhile_append_dropWhile, List.reverse_reverse]
  · intro c hc
    exact takeWhile_allWs s.reverse c (by simpa using hc)

/-- `rstrip` of a concatenation: the right part decides -/
theorem rstripW_append (a b : List Char) :
    rstripW ws (a ++ b) = if rstripW ws b = [] then rstripW ws a else a ++ rstripW ws b := by
  unfold rstripW
  rw [List.reverse_append, List.dropWhile_append]
  split <;> simp_all

theorem rstripW_allWs {W : List Char} (hW : AllWs ws W) : rstripW ws W = [] := by
  unfold rstripW
  rw [← List.append_nil W.reverse, List.dropWhile_append_of_pos fun c hc => hW c (List.mem_reverse.mp hc)]
  rfl

theorem rstripW_append_allWs (a : List Char) {W : List Char} (hW : AllWs ws W) : rstripW ws (a ++ W) = rstripW ws a := by
  rw [rstripW_append, rstripW_allWs hW, if_pos rfl]

theorem rstripW_nonws_cons {c : Char} (hc : ws c = false) (cs : List Char) :
    rstripW ws (c :: cs) = c :: rstripW ws cs := by
  have : rstripW ws [c] = [c] := by simp [rstripW, hc]
  rw [← List.singleton_append, rstripW_append, this]
  split <;> simp_all

theorem rstripW_blind {β} {f : List Char → β} (hf : ∀ a W, AllWs ws W → f (a ++ W) = f a) (s : List Char) :
    f (rstripW ws s) = f s := by
  obtain ⟨W, hs, hW, -⟩ := rstripW_split (ws := ws) s
  rw [← hf _ W hW, ← hs]

theorem rstripW_idem (s : List Char) : rstripW ws (rstripW ws s) = rstripW ws s :=
  rstripW_blind (fun a _ hW => rstripW_append_allWs a hW) s

/-- `rstrip` commutes with a pass: a trailing run is rewritten into a trailing run, and a run in front of the last token
sees the same token with or without what follows it -/
theorem rstripW_mapRuns {h} (hp : WsPres ws h) (s : List Char) :
    rstripW ws (mapRuns ws h s) = mapRuns ws h (rstripW ws s) := by
  induction s using runs_induction (ws := ws) with
  | nil => simp [rstripW]
  | tok c cs hc ih =>
    rw [mapRuns_nonws_cons h _ hc, rstripW_nonws_cons hc, rstripW_nonws_cons hc, mapRuns_nonws_cons h _ hc, ih]
  | run R nx hne hR hnx ih =>
    rw [mapRuns_run_append h hne hR hnx, rstripW_append, rstripW_append, ih, rstripW_allWs hR,
      rstripW_allWs (hp R _ hne hR).2]
    cases nx with
    | nil => simp [rstripW]
    | cons x xs =>
      have hx := hnx x rfl
      obtain ⟨W, hs, hW, -⟩ := rstripW_split (ws := ws) (x :: xs)
      rw [rstripW_nonws_cons hx] at hs ⊢
      rw [mapRuns_nonws_cons h _ hx, if_neg (by simp), if_neg (by simp), ← mapRuns_nonws_cons h _ hx,
        mapRuns_run_append h hne hR (fun d hd => by cases hd; exact hx)]
      rw [hs, takeWhile_nonws_append_ws hW]

/-- `fix_whitespace`-shaped functions: a pass over the runs, then `rstrip() + "\n"` -/
def tailF (ws : Char → Bool) (s : List Char) : List Char := rstripW ws s ++ ['\n']

theorem tail_mapRuns {h} (hp : WsPres ws h) (s : List Char) :
    tailF ws (mapRuns ws h s) = mapRuns ws h (rstripW ws s) ++ ['\n'] :=
  congrArg (· ++ ['\n']) (rstripW_mapRuns hp s)

theorem tail_mapRuns_idem {h} (hp : WsPres ws h) (hnl : ws '\n' = true)
    (hi : ∀ R la, R ≠ [] → AllWs ws R → h (h R la) la = h R la) (s : List Char) :
    tailF ws (mapRuns ws h (tailF ws (mapRuns ws h s))) = tailF ws (mapRuns ws h s) := by
  rw [tail_mapRuns hp s, tail_mapRuns hp]
  congr 1
  rw [rstripW_append_allWs _ (allWs_cons hnl allWs_nil), rstripW_mapRuns hp, rstripW_idem, mapRuns_comp hp]
  exact mapRuns_congr hi _

end GapicModel.Lemmas.MapRuns
