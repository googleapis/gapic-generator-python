import GapicModel.Lemmas.Words
import GapicModel.Lemmas.FixWsRuns
/-
C20 — what `fix_whitespace` cannot change.  Every match of its three patterns is a blank stretch ending in a line break
followed by kept text, and is replaced by another such stretch in front of the same text (`BlankNlSub`, from the exact
shapes of Lemmas/FixWsRuns.lean); so any observation of texts that is blind to which blank stretch ends a line, and to
trailing blanks, survives (`fixWhitespace_blind`).  The CODE LINES of a source (its non-blank lines, right-stripped, each
with its indentation) are such an observation.
-/
namespace GapicModel.Lemmas.CodeLines
open GapicModel.Regex GapicModel.Model.Whitespace
open GapicModel.Model.Wrap (splitOn)
open GapicModel.Lemmas.Words (splitOn_eq)
open GapicModel.Lemmas.MapRuns (AllWs allWs_nil allWs_cons allWs_append)
open GapicModel.Lemmas.FixWsRuns (wsT ws_nl ws1_shape ws2_shape ws3_shape)

abbrev T := Pinned.classTables

/-- the non-blank lines of a source, right-stripped, in order (indentation kept) -/
def codeLines (s : Str) : List Str :=
  ((splitOn '\n' s).map (rstrip T)).filter (fun l => !l.isEmpty)

theorem ws_sp : isWs T ' ' = true := FixWsRuns.ws_sp

theorem pySub_ctx {β} (f : Str → β) (r : Re) (repl : List RItem)
    (hstep : ∀ pre rest st, matchAt T r pre rest = some st →
      ∃ w, rest = w ++ st.rest ∧ Ctx f (expand st.caps repl) w) (s : Str) :
    Ctx f (pySub T r repl s) s := by
  refine subLoop_induction (motive := fun _ s out => Ctx f out s) (fun _ => Ctx.refl f []) (fun _ c _ _ _ ih => ih.cons c)
    ?_ _ _ _ (Nat.lt_succ_self _)
  intro pre c cs st out hm _ ih
  obtain ⟨w, hw, he⟩ := hstep pre _ st hm
  exact hw ▸ he.append ih

/-- every match of `r` is a blank stretch ending in a line break followed by text `K`, and `repl` puts another
blank stretch ending in a line break in front of the same `K` -/
def BlankNlSub (r : Re) (repl : List RItem) : Prop :=
  ∀ pre rest st, matchAt T r pre rest = some st →
    ∃ X N K, AllWs wsT X ∧ AllWs wsT N ∧ rest = (X ++ ['\n']) ++ K ++ st.rest ∧ expand st.caps repl = (N ++ ['\n']) ++ K

/-- an observation of texts that cannot tell two blank stretches ending in a line break apart -/
def BlankNlBlind {β} (f : Str → β) : Prop :=
  ∀ X N, AllWs wsT X → AllWs wsT N → Ctx f (N ++ ['\n']) (X ++ ['\n'])

theorem BlankNlSub.pySub {β} {f : Str → β} {r repl} (h : BlankNlSub r repl) (hf : BlankNlBlind f) (s : Str) :
    f (pySub T r repl s) = f s := by
  refine (pySub_ctx f r repl (fun pre rest st hm => ?_) s).eq
  obtain ⟨X, N, K, hX, hN, e, ex⟩ := h pre rest st hm
  exact ⟨(X ++ ['\n']) ++ K, e, ex ▸ (hf X N hX hN).append (Ctx.refl f K)⟩

theorem blankNl_ws1 : BlankNlSub ws1Re ws1Repl := by
  intro pre rest st hm
  obtain ⟨k, e, ex⟩ := ws1_shape hm
  exact ⟨List.replicate (k + 1) ' ', [], [], MapRuns.allWs_replicate ' ' ws_sp _, allWs_nil,
    by simp [e], by simp [ex]⟩

theorem blankNl_ws2 : BlankNlSub ws2Re ws2Repl := by
  intro pre rest st hm
  obtain ⟨_, kw, hR, ⟨A, B, C, _, rfl⟩, _, e, ex⟩ := ws2_shape hm
  have eR : A ++ '\n' :: (B ++ '\n' :: (C ++ ['\n'])) = (A ++ '\n' :: (B ++ '\n' :: C)) ++ ['\n'] := by simp
  rw [eR] at hR e
  exact ⟨_, ['\n', '\n'], kw, fun c hc => hR c (List.mem_append_left _ hc),
    allWs_cons ws_nl (allWs_cons ws_nl allWs_nil), by simp [e], by simp [ex]⟩

theorem blankNl_ws3 : BlankNlSub ws3Re ws3Repl := by
  intro pre rest st hm
  obtain ⟨A, B, k, c, _, wA, wB, _, e, ex⟩ := ws3_shape hm
  exact ⟨A ++ '\n' :: B, ['\n'], List.replicate (4 * (k + 1)) ' ' ++ [c], allWs_append wA (allWs_cons ws_nl wB),
    allWs_cons ws_nl allWs_nil, by simp [e], by simp [ex]⟩

/-- **what `fix_whitespace` cannot change**: any observation that is blind to which blank stretch ends a line
and to trailing blanks -/
theorem fixWhitespace_blind {β} {f : Str → β} (hf : BlankNlBlind f) (htail : ∀ a B, AllWs wsT B → f (a ++ B) = f a)
    (s : Str) : f (fixWhitespace s) = f s := by
  unfold fixWhitespace fixWhitespaceWith
  rw [htail _ _ (allWs_cons ws_nl allWs_nil), FixWsRuns.rstrip_eq_rstripW, MapRuns.rstripW_blind htail,
    blankNl_ws3.pySub hf, blankNl_ws2.pySub hf, blankNl_ws1.pySub hf]

theorem codeLines_append_nl (a b : Str) : codeLines (a ++ '\n' :: b) = codeLines a ++ codeLines b := by
  simp only [codeLines, splitOn_eq, List.splitOn_append_cons_self, List.map_append, List.filter_append]

theorem codeLines_nil : codeLines [] = [] := by
  simp [codeLines, splitOn, rstrip]

theorem codeLines_snoc_ws (a : Str) (b : Char) (hb : isWs T b = true) : codeLines (a ++ [b]) = codeLines a := by
  by_cases hnl : b = '\n'
  · subst hnl
    rw [codeLines_append_nl, codeLines_nil, List.append_nil]
  · obtain ⟨init, last, h1, h2⟩ := Split.splitOn_append_of_not_mem '\n' (b := [b]) (by simpa using Ne.symm hnl) a
    simp only [codeLines, splitOn_eq, h1, h2, List.map_append, List.map_cons, List.map_nil, FixWsRuns.rstrip_eq_rstripW,
      MapRuns.rstripW_append_allWs last (allWs_cons hb allWs_nil)]

theorem codeLines_append_blank : ∀ (B a : Str), AllWs wsT B → codeLines (a ++ B) = codeLines a
  | [], a, _ => by simp
  | b :: B, a, h => by
    have : a ++ b :: B = (a ++ [b]) ++ B := by simp
    rw [this, codeLines_append_blank B (a ++ [b]) (fun c hc => h c (by simp [hc])),
      codeLines_snoc_ws a b (h b (by simp))]

theorem codeLines_blank_nl (pre W post : Str) (hW : AllWs wsT W) :
    codeLines (pre ++ (W ++ ['\n']) ++ post) = codeLines pre ++ codeLines post := by
  have : pre ++ (W ++ ['\n']) ++ post = (pre ++ W) ++ '\n' :: post := by simp
  rw [this, codeLines_append_nl, codeLines_append_blank W pre hW]

theorem ctx_blank_nl : BlankNlBlind codeLines := by
  intro X N hX hN pre post
  rw [codeLines_blank_nl pre N post hN, codeLines_blank_nl pre X post hX]

end GapicModel.Lemmas.CodeLines
