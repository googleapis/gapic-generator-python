import GapicModel.Lemmas.RegexComplete
import GapicModel.Pinned.Funcs
/-
`gapic/utils/filename.py: to_valid_filename / to_valid_module_name` (the T1-f translations in Pinned/Funcs.lean),
characterised over the regex engine: `re.sub('[^a-z0-9.$_-]+', '-', s.lower())`.
Soundness of the matcher gives that a reported match is a non-empty span, completeness (Lemmas/RegexComplete)
gives that a position the left-most search skipped carries an allowed character.
-/
namespace GapicModel.Lemmas.ValidFilename
open GapicModel.Regex GapicModel.PyRt

/-- the items of the negated class of the pinned pattern -/
def items : List CItem := [.range 'a' 'z', .range '0' '9', .ch '.', .ch '$', .ch '_', .ch '-']

/-- the pattern `[^a-z0-9.$_-]+` as the translator emits it -/
def P : Re := .seq (.cls true items) (.star (.cls true items) true)

/-- a character the pattern replaces -/
def bad (c : Char) : Bool := clsTest T true items c

/-- the characters a valid file name is made of (code-point comparisons, as the class test makes them) -/
def Allowed (c : Char) : Prop :=
  ('a'.toNat ≤ c.toNat ∧ c.toNat ≤ 'z'.toNat) ∨ ('0'.toNat ≤ c.toNat ∧ c.toNat ≤ '9'.toNat) ∨
    c = '.' ∨ c = '$' ∨ c = '_' ∨ c = '-'

theorem bad_false_iff (c : Char) : bad c = false ↔ Allowed c := by
  simp only [bad, clsTest, items, List.any_cons, List.any_nil, CItem.test, Bool.or_false, Allowed,
    bne_eq_false_iff_eq, Bool.or_eq_true, Bool.and_eq_true, decide_eq_true_eq, beq_iff_eq,
    @eq_comm _ '.', @eq_comm _ '$', @eq_comm _ '_', @eq_comm _ '-']

theorem allowed_ne_slash {c : Char} (h : Allowed c) : c ≠ '/' := by
  rintro rfl
  revert h
  unfold Allowed
  decide

theorem match_P {pre : Str} {d : Char} {ds : Str} {st : St} (h : matchAt T P pre (d :: ds) = some st) :
    bad d = true ∧ ∃ w, ds = w ++ st.rest := by
  obtain ⟨s1, h1, h2⟩ := (matchAt_sound h).seq_inv
  obtain ⟨d', r, hs, ht, rfl⟩ := h1.cls_inv
  obtain ⟨w, hw, _⟩ := h2.consumed
  cases hs
  exact ⟨ht, w, hw⟩

theorem match_of_bad (pre : Str) (c : Char) (cs : Str) (hc : bad c = true) :
    (matchAt T P pre (c :: cs)).isSome = true :=
  (Goes.seq (Goes.cls hc) Goes.star0).matchAt_isSome (by decide) pre cs

/-- **every character of `re.sub(P, '-', s)` is `-` or an allowed character of `s`** -/
theorem subLoop_chars : ∀ (n : Nat) (pre s : Str), s.length < n →
    ∀ c ∈ subLoop T P [.lit ['-']] n pre s, c = '-' ∨ (c ∈ s ∧ bad c = false) := by
  refine subLoop_induction (motive := fun _ s out => ∀ c ∈ out, c = '-' ∨ (c ∈ s ∧ bad c = false))
    (fun _ _ hc => nomatch hc) ?_ ?_
  · intro pre d ds out hno ih c hc
    rcases List.mem_cons.mp hc with rfl | hc
    · refine .inr ⟨List.mem_cons_self, ?_⟩
      cases hb : bad c with
      | false => rfl
      | true =>
        -- the matcher would have answered, and a match consumes
        obtain ⟨st, hst⟩ := Option.isSome_iff_exists.mp (match_of_bad pre c ds hb)
        obtain ⟨_, w, hw⟩ := match_P hst
        exact absurd (by rw [hw]; simp only [List.length_cons, List.length_append]; omega) (hno st hst)
    · exact (ih c hc).imp_right fun h => ⟨List.mem_cons_of_mem _ h.1, h.2⟩
  · intro pre d ds st out hm _ ih c hc
    obtain ⟨_, w, hw⟩ := match_P hm
    simp only [expand, List.append_nil, List.cons_append, List.nil_append, List.mem_cons] at hc
    rcases hc with rfl | hc
    · exact .inl rfl
    · exact (ih c hc).imp_right fun h => ⟨List.mem_cons_of_mem _ (hw ▸ List.mem_append_right _ h.1), h.2⟩

theorem subLoop_id : ∀ (n : Nat) (pre s : Str), s.length < n → (∀ c ∈ s, bad c = false) →
    subLoop T P [.lit ['-']] n pre s = s := by
  refine subLoop_induction (motive := fun _ s out => (∀ c ∈ s, bad c = false) → out = s) (fun _ _ => rfl) ?_ ?_
  · intro pre c cs out _ ih hall
    rw [ih (fun d hd => hall d (List.mem_cons_of_mem _ hd))]
  · intro pre c cs st out hm _ _ hall
    have hb := (match_P hm).1
    rw [hall c List.mem_cons_self] at hb
    cases hb

theorem to_valid_filename_eq (s : Str) :
    Pinned.Funcs.to_valid_filename s = subLoop T P [.lit ['-']] ((lower s).length + 1) [] (lower s) := rfl

/-- `s.replace(a, b)` for single characters is a character map -/
theorem replace_char (a b : Char) (s : Str) : replace s [a] [b] = s.map (fun c => if c = a then b else c) := by
  unfold replace
  induction s with
  | nil => rfl
  | cons c cs ih =>
    by_cases h : c = a
    · subst h; simp [replaceAux, List.isPrefixOf, ih]
    · simp [replaceAux, List.isPrefixOf, Ne.symm h, h, ih]

theorem to_valid_module_name_eq (s : Str) :
    Pinned.Funcs.to_valid_module_name s =
      (Pinned.Funcs.to_valid_filename s).map (fun c => if c = '-' then '_' else c) := by
  rw [Pinned.Funcs.to_valid_module_name, replace_char]

theorem lowerC_allowed (c : Char) (h : Allowed c) : lowerC c = c := by
  have e : ∀ a b : Char, a ≤ b ↔ a.toNat ≤ b.toNat := fun a b => by rw [Char.le_def, UInt32.le_iff_toNat_le]; rfl
  refine if_neg ?_
  rw [e, e]
  rcases h with h | h | h | h | h | h
  · exact fun hc => absurd (Nat.le_trans h.1 hc.2) (by decide)  -- `a` lies above `Z`
  · exact fun hc => absurd (Nat.le_trans hc.1 h.2) (by decide)  -- `9` lies below `A`
  all_goals (subst h; decide)

theorem to_valid_filename_fixed (s : Str) (h : ∀ c ∈ s, Allowed c) : Pinned.Funcs.to_valid_filename s = s := by
  have hl : lower s = s := (List.map_congr_left fun c hc => lowerC_allowed c (h c hc)).trans (List.map_id' s)
  rw [to_valid_filename_eq, hl]
  exact subLoop_id _ [] s (by omega) (fun c hc => (bad_false_iff c).mpr (h c hc))

theorem to_valid_module_name_fixed (s : Str) (h : ∀ c ∈ s, Allowed c ∧ c ≠ '-') :
    Pinned.Funcs.to_valid_module_name s = s := by
  rw [to_valid_module_name_eq, to_valid_filename_fixed s (fun c hc => (h c hc).1)]
  exact (List.map_congr_left fun c hc => if_neg (h c hc).2).trans (List.map_id' s)

end GapicModel.Lemmas.ValidFilename
