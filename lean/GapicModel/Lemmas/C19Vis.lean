import GapicModel.Model.ResourceVis
/-
Helper lemmas for the visibility part of C19 (Model/ResourceVis.lean): the work-list closure
`close` computes exactly the messages reachable through message-typed fields, for every API (no
bound on the number of messages, on the depth or on cycles); the fuel `fuelFor` always suffices.
-/
namespace GapicModel.Lemmas.C19Vis
open GapicModel.Model.ResourceVis

/-- reachability through message-typed fields (zero or more steps) -/
inductive Reach (api : Api) : Name → Name → Prop
  | refl (a : Name) : Reach api a a
  | step {a b c : Name} : Reach api a b → c ∈ succs api b → Reach api a c

theorem succs_of_not_name (api : Api) (x : Name) (h : x ∉ api.names) : succs api x = [] := by
  have : api.findMsg x = none :=
    List.find?_eq_none.mpr fun m hm hb => h (List.mem_map.mpr ⟨m, hm, by simpa using hb⟩)
  simp only [succs, this]

/-- marking `x` as seen frees what `x` was charged in the potential -/
theorem pot_cons (api : Api) (x : Name) (seen : List Name) (hx : x ∉ seen) (ns : List Name) :
    pot api (x :: seen) ns + (if x ∈ ns then (succs api x).length else 0) ≤ pot api seen ns := by
  induction ns with
  | nil => simp [pot]
  | cons n ns ih =>
    by_cases hn : n = x
    · subst hn
      simp only [pot, List.mem_cons, true_or, if_true, hx, if_false] at ih ⊢
      omega
    · simp only [pot, List.mem_cons, hn, false_or, Ne.symm hn, Nat.add_assoc]
      exact Nat.add_le_add_left ih _

/-- a productive step of `close` lowers `work.length + pot …`: the successors that join the work list were charged
to `x` (a name that is no message has none) -/
theorem pot_visit (api : Api) (x : Name) (seen : List Name) (hx : x ∉ seen) :
    pot api (x :: seen) api.names + (succs api x).length ≤ pot api seen api.names := by
  have := pot_cons api x seen hx api.names
  by_cases hn : x ∈ api.names
  · simpa only [hn, if_true] using this
  · rw [succs_of_not_name api x hn]
    simpa only [hn, if_false, List.length_nil] using this

/-- with enough fuel the result contains `seen` and `work`, and the successors of everything it adds to `seen`. -/
theorem close_complete (api : Api) (f : Nat) (work seen : List Name) :
    work.length + pot api seen api.names ≤ f →
    (∀ s ∈ seen, s ∈ close api f work seen) ∧ (∀ x ∈ work, x ∈ close api f work seen) ∧
      ∀ s ∈ close api f work seen, s ∉ seen → ∀ y ∈ succs api s, y ∈ close api f work seen := by
  fun_induction close api f work seen with
  | case1 work seen =>
    intro hf
    have : work = [] := List.eq_nil_of_length_eq_zero (by omega)
    subst this
    exact ⟨fun _ h => h, nofun, fun s h h' => absurd h h'⟩
  | case2 _ seen => exact fun _ => ⟨fun _ h => h, nofun, fun s h h' => absurd h h'⟩
  | case3 f x w seen hx ih =>
    intro hf
    obtain ⟨a, b, c⟩ := ih (by simp only [List.length_cons] at hf; omega)
    exact ⟨a, List.forall_mem_cons.mpr ⟨a x hx, b⟩, c⟩
  | case4 f x w seen hx ih =>
    intro hf
    have := pot_visit api x seen hx
    obtain ⟨a, b, c⟩ := ih (by simp only [List.length_cons, List.length_append] at hf ⊢; omega)
    refine ⟨fun s hs => a s (List.mem_cons_of_mem _ hs),
      List.forall_mem_cons.mpr ⟨a x List.mem_cons_self, fun y hy => b y (List.mem_append_right _ hy)⟩,
      fun s hs hns y hy => ?_⟩
    by_cases e : s = x
    · exact b y (List.mem_append_left _ (e ▸ hy))
    · exact c s hs (fun h => (List.mem_cons.mp h).elim e hns) y hy

/-- whatever the fuel, the result only holds what `seen`/`work` held, closed forward. -/
theorem close_sound (api : Api) (P : Name → Prop) (hP : ∀ b c, P b → c ∈ succs api b → P c)
    (f : Nat) (work seen : List Name) :
    (∀ x ∈ work, P x) → (∀ s ∈ seen, P s) → ∀ n ∈ close api f work seen, P n := by
  fun_induction close api f work seen with
  | case1 _ seen => exact fun _ hs => hs
  | case2 _ seen => exact fun _ hs => hs
  | case3 f x w seen hx ih => exact fun hw hs => ih (fun y hy => hw y (List.mem_cons_of_mem _ hy)) hs
  | case4 f x w seen hx ih =>
    intro hw hs
    have px : P x := hw x List.mem_cons_self
    exact ih (fun y hy => (List.mem_append.mp hy).elim (hP x y px) fun h => hw y (List.mem_cons_of_mem _ h))
      (List.forall_mem_cons.mpr ⟨px, hs⟩)

/-- **`recursive_field_types` is reachability**: for every API and root. -/
theorem mem_reachable_iff (api : Api) (root n : Name) : n ∈ reachable api root ↔ Reach api root n := by
  constructor
  · exact close_sound api (Reach api root) (fun b c hb hc => Reach.step hb hc) (fuelFor api) [root] []
      (List.forall_mem_cons.mpr ⟨Reach.refl _, nofun⟩) nofun n
  · intro h
    obtain ⟨_, hw, hc⟩ := close_complete api (fuelFor api) [root] [] (by simp [fuelFor])
    induction h with
    | refl => exact hw root List.mem_cons_self
    | step _ hcb ih => exact hc _ ih List.not_mem_nil _ hcb

end GapicModel.Lemmas.C19Vis
