import GapicModel.Lemmas.Split
import GapicModel.PyRt
/-
`str.split(c)` / `c.join(...)` of the Python runtime model (PyRt) for a one-character separator are core's `List.splitOn` /
`List.intercalate`, so splitting a joined list of separator-free segments gives the segments back; and Python's truth
test of a sequence.
-/
namespace GapicModel.Lemmas.SplitJoin
open GapicModel.PyRt

theorem truthy_iff {α} {l : List α} : truthy l = true ↔ l ≠ [] := by
  cases l <;> simp [truthy]

theorem splitAux_eq (c : Char) : ∀ (s cur : Str), splitAux [c] 0 cur s = List.splitOnPPrepend (· == c) s cur
  | [], cur => by simp [splitAux]
  | d :: ds, cur => by
    by_cases hd : d = c
    · simp [splitAux, List.isPrefixOf, List.splitOnPPrepend_cons_eq_if, hd, splitAux_eq c ds]
    · simp [splitAux, List.isPrefixOf, List.splitOnPPrepend_cons_eq_if, hd, Ne.symm hd, splitAux_eq c ds]

theorem split_eq (c : Char) (s : Str) : split s [c] = s.splitOn c :=
  splitAux_eq c s []

theorem join_eq : @join = @List.intercalate Char := by
  funext sep xs; induction xs using join.induct <;> simp_all [join]

/-- **`c.join(xs).split(c) == xs`** for a non-empty list of segments that do not contain `c` -/
theorem split_join (c : Char) (xs : List Str) (hne : xs ≠ []) (h : ∀ s ∈ xs, c ∉ s) :
    split (join [c] xs) [c] = xs := by
  rw [split_eq, join_eq, List.splitOn_intercalate c h hne]

end GapicModel.Lemmas.SplitJoin
