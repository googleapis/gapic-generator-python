import GapicModel.Regex.Match
/-
What the definitions of Regex/Match.lean compute, with no second semantics beside them.  The matcher `m`: one equation
per constructor (look-around apart), the class tests `[lo-hi]` and `[^c]`, sequences and literals as the translator
emits them (`seqR`), `star` without its fuel (`m_star_unfold`), lazy `.*?` as a scan for the first offset where the
continuation succeeds (`lazySpec`).  On top of it: the text of a capture, look-up of a group, `re.search`, and `re.sub`
by cases without its fuel (`subLoop_induction`).
-/
namespace GapicModel.Regex

/-! unfoldings of `m`, one per constructor, for rewriting at a chosen place.  All hold by `rfl`; the first is proved by
`rw [m]` so that the equation lemmas of `m` are generated in this file: a declaration that simplifies with `m` finds them
only if an imported file has made them, and otherwise makes them for itself (≈ 300 k heartbeats each time, nothing is
shared between the declarations of one file). -/

theorem m_alt_eq (t : ClassTables) (a b : Re) (s : St) (k : K) :
    m t (.alt a b) s k = (m t a s k).orElse (fun _ => m t b s k) := by
  rw [m]
theorem m_seq_eq (t : ClassTables) (a b : Re) (s : St) (k : K) :
    m t (.seq a b) s k = m t a s (fun s' => m t b s' k) := rfl
theorem m_star_eq (t : ClassTables) (r : Re) (g : Bool) (s : St) (k : K) :
    m t (.star r g) s k = starLoop (m t r) g k s.rest.length s := rfl
theorem m_eps_eq (t : ClassTables) (s : St) (k : K) : m t .eps s k = k s := rfl
theorem m_chr_cons (t : ClassTables) (c d : Char) (pre r : List Char) (caps) (k : K) :
    m t (.chr c) ⟨pre, d :: r, caps⟩ k = if c = d then k ⟨d :: pre, r, caps⟩ else none := rfl
theorem m_chr_nil (t : ClassTables) (c : Char) (pre : List Char) (caps) (k : K) :
    m t (.chr c) ⟨pre, [], caps⟩ k = none := rfl
theorem m_any_cons (t : ClassTables) (pre : List Char) (d : Char) (r : List Char) (caps) (k : K) :
    m t .any ⟨pre, d :: r, caps⟩ k = if d ≠ '\n' then k ⟨d :: pre, r, caps⟩ else none := rfl
theorem m_any_nil (t : ClassTables) (pre : List Char) (caps) (k : K) : m t .any ⟨pre, [], caps⟩ k = none := rfl
theorem m_cls_cons (t : ClassTables) (neg : Bool) (items : List CItem) (pre : List Char) (d : Char) (r : List Char)
    (caps) (k : K) :
    m t (.cls neg items) ⟨pre, d :: r, caps⟩ k = if clsTest t neg items d then k ⟨d :: pre, r, caps⟩ else none := rfl
theorem m_cls_nil (t : ClassTables) (neg : Bool) (items : List CItem) (pre : List Char) (caps) (k : K) :
    m t (.cls neg items) ⟨pre, [], caps⟩ k = none := rfl
theorem m_group_eq (t : ClassTables) (i : Nat) (r : Re) (s : St) (k : K) :
    m t (.group i r) s k = m t r s (fun s' => k { s' with caps := (i, capture s s') :: s'.caps }) := rfl
theorem m_bol_eq (t : ClassTables) (s : St) (k : K) : m t .bol s k = if s.pre = [] then k s else none := rfl
theorem m_eol_eq (t : ClassTables) (s : St) (k : K) :
    m t .eol s k = if s.rest = [] ∨ s.rest = ['\n'] then k s else none := rfl

theorem eol_fail (t : ClassTables) (pre rest caps) (k : K) (h1 : rest ≠ []) (h2 : '\n' ∉ rest) :
    m t .eol ⟨pre, rest, caps⟩ k = none :=
  if_neg fun h => h.elim h1 fun (h : rest = _) => h2 (h ▸ .head _)

/-- the class `[lo-hi]` -/
theorem clsTest_range (t : ClassTables) (lo hi : Char) :
    clsTest t false [.range lo hi] = fun d => decide (lo.toNat ≤ d.toNat) && decide (d.toNat ≤ hi.toNat) := by
  funext d; simp [clsTest, CItem.test]

/-- the class `[^c]` -/
theorem clsTest_not_ch (t : ClassTables) (c : Char) : clsTest t true [.ch c] = (· != c) := by
  funext d; simp [clsTest, CItem.test, bne, Bool.beq_comm]

theorem m_seqR_cons (t : ClassTables) (a : Re) (r : List Re) (s : St) (k : K) :
    m t (seqR (a :: r)) s k = m t a s (fun s' => m t (seqR r) s' k) := by
  cases r <;> rfl

theorem m_seqR_chrs (t : ClassTables) (cs : List Char) (r : List Re) (s : St) (k : K) :
    m t (seqR (cs.map .chr ++ r)) s k = if cs <+: s.rest then m t (seqR r) (adv s cs) k else none := by
  induction cs generalizing s with
  | nil => simp [adv]
  | cons c cs ih =>
    obtain ⟨pre, rest, caps⟩ := s
    rw [List.map_cons, List.cons_append, m_seqR_cons]
    cases rest with
    | nil => simp [m_chr_nil]
    | cons d rest =>
      rw [m_chr_cons]
      by_cases hcd : c = d
      · subst hcd
        rw [if_pos rfl, ih]
        simp [adv, List.cons_prefix_cons]
      · simp [hcd, List.cons_prefix_cons]

/-- a literal suffix followed by `$` (`L = []`: `$` alone) cannot match anywhere but at the very end. -/
theorem lits_eol_fail (t : ClassTables) (L y : List Char) (pre caps) (k : K)
    (hy : y ≠ []) (hny : '\n' ∉ y) (hnl : '\n' ∉ L) :
    m t (seqR (L.map .chr ++ [.eol])) ⟨pre, y ++ L, caps⟩ k = none := by
  rw [m_seqR_chrs]
  split
  · refine eol_fail t _ _ _ k (fun h => hy ?_) fun h => ?_
    · simpa using congrArg List.length h
    · exact (List.mem_append.mp (List.mem_of_mem_drop h)).elim hny hnl
  · rfl

/-- a matcher whose continuation always fails fails -/
theorem m_fail (t : ClassTables) : ∀ (r : Re) (s : St), m t r s (fun _ => none) = none := by
  intro r
  induction r with
  | eps => exact fun _ => rfl
  | chr _ | any | cls _ _ =>
    rintro ⟨pre, _ | ⟨d, rest⟩, caps⟩
    · rfl
    · exact ite_self _
  | seq a b iha ihb => exact fun s => (congrArg (m t a s) (funext ihb)).trans (iha s)
  | alt a b iha ihb => intro s; rw [m_alt_eq, iha, ihb]; rfl
  | star r g ih =>
    intro s
    rw [m_star_eq]
    generalize s.rest.length = n
    induction n generalizing s with
    | zero => rfl
    | succ n ihn => cases g <;> simp [starLoop, ihn, ih]
  | group i r ih => exact fun s => ih s
  | bol | eol => exact fun _ => ite_self _
  | look a n r _ => intro s; cases a <;> exact ite_self _

/-- the fuel of `starLoop` is only a termination device: given enough of it, a `star` is one round of its body,
followed by the star again if the round consumed something, or no round, tried in the order greediness says -/
theorem starLoop_eq (t : ClassTables) (r : Re) (g : Bool) (k : K) (s : St) (n : Nat) (hn : s.rest.length ≤ n) :
    starLoop (m t r) g k n s =
      if g then (m t r s fun s' => if s'.rest.length < s.rest.length then m t (.star r g) s' k else none).orElse fun _ => k s
      else (k s).orElse fun _ => m t r s fun s' => if s'.rest.length < s.rest.length then m t (.star r g) s' k else none := by
  induction n using Nat.strongRecOn generalizing s with
  | ind n ih =>
    cases n with
    | zero =>
      -- no input left: the round cannot consume, and `starLoop` does not try it
      have : (fun s' : St => if s'.rest.length < s.rest.length then m t (.star r g) s' k else none) = fun _ => none := by
        funext s'; rw [if_neg (by omega)]
      rw [this, m_fail]; cases g <;> simp [starLoop]
    | succ n =>
      have : (fun s' : St => if s'.rest.length < s.rest.length then starLoop (m t r) g k n s' else none) =
          fun s' => if s'.rest.length < s.rest.length then m t (.star r g) s' k else none := by
        funext s'
        by_cases hlt : s'.rest.length < s.rest.length
        -- both loops, at fuel `n` and at the fuel `m` gives the star on the shorter rest, are the fuel-free right side
        · rw [if_pos hlt, if_pos hlt, m_star_eq, ih n (Nat.lt_succ_self n) s' (by omega), ih _ (by omega) s' (Nat.le_refl _)]
        · rw [if_neg hlt, if_neg hlt]
      rw [starLoop, this]

theorem m_star_unfold (t : ClassTables) (r : Re) (g : Bool) (s : St) (k : K) :
    m t (.star r g) s k =
      if g then (m t r s fun s' => if s'.rest.length < s.rest.length then m t (.star r g) s' k else none).orElse fun _ => k s
      else (k s).orElse fun _ => m t r s fun s' => if s'.rest.length < s.rest.length then m t (.star r g) s' k else none :=
  starLoop_eq t r g k s _ (Nat.le_refl _)

theorem starLoop_fuel (t : ClassTables) (r : Re) (g : Bool) (k : K) (s : St) (n : Nat) (hn : s.rest.length ≤ n) :
    starLoop (m t r) g k n s = m t (.star r g) s k :=
  (starLoop_eq t r g k s n hn).trans (m_star_unfold t r g s k).symm

/-- spec of lazy `.*?` followed by continuation `k` -/
def lazySpec (k : K) (pre : List Char) (caps : List (Nat × List Char)) : List Char → Option St
  | [] => k ⟨pre, [], caps⟩
  | d :: r => (k ⟨pre, d :: r, caps⟩).orElse fun _ =>
      if d ≠ '\n' then lazySpec k (d :: pre) caps r else none

theorem star_any_lazy (t : ClassTables) (k : K) (s : St) :
    m t (.star .any false) s k = lazySpec k s.pre s.caps s.rest := by
  obtain ⟨pre, rest, caps⟩ := s
  induction rest generalizing pre with
  | nil => rfl
  | cons d r ih =>
    rw [m_star_unfold, if_neg Bool.false_ne_true, m_any_cons]
    simp only [List.length_cons, Nat.lt_succ_self, if_true, ih, lazySpec]

theorem lazySpec_skip (k : K) (caps) :
    ∀ (x pre rest' : List Char), '\n' ∉ x →
      (∀ j, j < x.length → k ⟨(x.take j).reverse ++ pre, x.drop j ++ rest', caps⟩ = none) →
      lazySpec k pre caps (x ++ rest') = lazySpec k (x.reverse ++ pre) caps rest' := by
  intro x
  induction x with
  | nil => intro pre rest' _ _; rfl
  | cons d x ih =>
    intro pre rest' hnl hfail
    have hd : d ≠ '\n' := fun h => hnl (h ▸ .head _)
    have h0 : k ⟨pre, d :: (x ++ rest'), caps⟩ = none := hfail 0 (Nat.zero_lt_succ _)
    rw [List.cons_append, lazySpec, h0, Option.orElse_none, if_pos hd,
      ih (d :: pre) rest' (fun h => hnl (.tail _ h)) fun j hj => by simpa using hfail (j + 1) (Nat.succ_lt_succ hj)]
    simp

/-- lazy `.*?` stops at the first offset where the continuation succeeds -/
theorem lazySpec_first (k : K) (caps) (x pre rest : List Char) (hx : '\n' ∉ x)
    (hfail : ∀ j, j < x.length → k ⟨(x.take j).reverse ++ pre, x.drop j ++ rest, caps⟩ = none)
    {s' : St} (hok : k ⟨x.reverse ++ pre, rest, caps⟩ = some s') :
    lazySpec k pre caps (x ++ rest) = some s' := by
  rw [lazySpec_skip k caps x pre rest hx hfail]
  cases rest <;> simp [lazySpec, hok]

/-- the text a group captures when the matcher has consumed `c` since the group was entered -/
theorem capture_app (p c r r' : List Char) (cs cs' : List (Nat × List Char)) :
    capture ⟨p, r, cs⟩ ⟨c.reverse ++ p, r', cs'⟩ = c := by
  simp [capture]

theorem group?_head (i : Nat) (w : List Char) (caps) : St.group? ((i, w) :: caps) i = some w := by
  simp [St.group?]

theorem group?_skip {i j : Nat} (h : j ≠ i) (w : List Char) (caps) : St.group? ((j, w) :: caps) i = St.group? caps i := by
  rw [St.group?, List.find?_cons_of_neg (by simpa using h), St.group?]

theorem group?_isSome {caps : List (Nat × List Char)} {i : Nat} {w : List Char} (h : (i, w) ∈ caps) :
    (St.group? caps i).isSome = true := by
  rw [St.group?, Option.isSome_map, List.find?_isSome]
  exact ⟨(i, w), h, beq_self_eq_true i⟩

theorem mem_of_group?_eq_some {caps : List (Nat × List Char)} {i : Nat} {w : List Char}
    (h : St.group? caps i = some w) : (i, w) ∈ caps := by
  obtain ⟨p, hp, rfl⟩ := Option.map_eq_some_iff.mp h
  have hi := List.find?_some hp
  exact beq_iff_eq.mp hi ▸ List.mem_of_find?_eq_some hp

/-- a successful `re.search` is a match at some position -/
theorem searchFrom_some (t : ClassTables) (r : Re) : ∀ (rest pre : List Char) (s0 st : St),
    searchFrom t r pre rest = some (s0, st) → ∃ pre' rest', matchAt t r pre' rest' = some st
  | [], pre, s0, st, h => by
    obtain ⟨a, ha, he⟩ := Option.map_eq_some_iff.mp h
    exact ⟨pre, [], (Prod.mk.inj he).2 ▸ ha⟩
  | c :: cs, pre, s0, st, h => by
    rw [searchFrom] at h
    split at h
    · exact ⟨pre, c :: cs, (Prod.mk.inj (Option.some.inj h)).2 ▸ ‹_›⟩
    · exact searchFrom_some t r cs _ s0 st h

/-- `re.sub` by cases, free of its fuel: the end of the text; a position where the pattern has no consuming match,
whose character is copied; a match, which is replaced and skipped -/
theorem subLoop_induction {t : ClassTables} {r : Re} {repl : List RItem} {motive : List Char → List Char → List Char → Prop}
    (nil : ∀ pre, motive pre [] [])
    (skip : ∀ pre c cs out, (∀ st, matchAt t r pre (c :: cs) = some st → ¬ st.rest.length < (c :: cs).length) →
      motive (c :: pre) cs out → motive pre (c :: cs) (c :: out))
    (hit : ∀ pre c cs st out, matchAt t r pre (c :: cs) = some st → st.rest.length < (c :: cs).length →
      motive st.pre st.rest out → motive pre (c :: cs) (expand st.caps repl ++ out)) :
    ∀ (n : Nat) (pre s : List Char), s.length < n → motive pre s (subLoop t r repl n pre s) := by
  intro n
  induction n with
  | zero => intro pre s hs; cases hs
  | succ n ih =>
    intro pre s hs
    cases s with
    | nil => exact nil pre
    | cons c cs =>
      have hcs : cs.length < n := Nat.lt_of_succ_lt_succ hs
      rw [subLoop]
      cases hm : matchAt t r pre (c :: cs) with
      | none => exact skip pre c cs _ (fun st h => nomatch hm.symm.trans h) (ih _ _ hcs)
      | some st =>
        dsimp only
        by_cases hl : st.rest.length < (c :: cs).length
        · rw [if_pos hl]
          exact hit pre c cs st _ hm hl (ih _ _ (Nat.lt_of_lt_of_le hl (Nat.le_of_lt_succ hs)))
        · rw [if_neg hl]
          exact skip pre c cs _ (fun st' h => Option.some.inj (hm.symm.trans h) ▸ hl) (ih _ _ hcs)

end GapicModel.Regex
