import GapicModel.Model.Wrap
/-
C20 — `textwrap._wrap_chunks` core.  The emitted lines are cut out of the chunk list in order and everything between
them is blank (`Cut`, `wrapCur_cut`); the chunk-level theorems (restated in Props/C20.lean) and everything the string
level needs to know about the loop are read off that invariant.
-/
namespace GapicModel.Lemmas.Textwrap
open GapicModel.Regex GapicModel.Model.Wrap

def lenSum (cur : List Str) : Nat := (cur.map List.length).sum

/-- the non-blank chunks (the "words") of a chunk list -/
def wordsOf (t : ClassTables) (cs : List Str) : List Str := cs.filter (fun c => !isBlank t c)

theorem lenSum_append (a b : List Str) : lenSum (a ++ b) = lenSum a + lenSum b := by
  simp [lenSum]

theorem length_flatten_eq_lenSum (l : List Str) : l.flatten.length = lenSum l := by
  simp [lenSum, List.length_flatten]

theorem wordsOf_append (t) (a b : List Str) : wordsOf t (a ++ b) = wordsOf t a ++ wordsOf t b := by
  simp [wordsOf]

def AllBlank (t : ClassTables) (b : List Str) : Prop := ∀ c ∈ b, isBlank t c = true

theorem AllBlank.wordsOf {t} {b : List Str} (h : AllBlank t b) : wordsOf t b = [] :=
  List.filter_eq_nil_iff.mpr fun c hc => by simp [h c hc]

theorem AllBlank.append {t} {a b : List Str} (ha : AllBlank t a) (hb : AllBlank t b) : AllBlank t (a ++ b) :=
  fun c hc => (List.mem_append.mp hc).elim (ha c) (hb c)

theorem AllBlank.nil (t) : AllBlank t [] := fun _ h => nomatch h

/-- what `_wrap_chunks` guarantees of a line for the width `w` left beside its indent; the second case is
`_handle_long_word` with `break_long_words=False` -/
def Fits (t : ClassTables) (w : Nat) (l : List Str) : Prop := lenSum l ≤ w ∨ ∃ c, l = [c] ∧ isBlank t c = false

/-- `Cut t ok first cs ls`: the lines `ls` are cut out of the chunk list `cs` in order; every line is non-empty
and `ok` (the flag says whether it is the first); what lies before, between and after the lines is blank; a
line that is followed by a kept chunk directly does not end in a blank chunk. -/
inductive Cut (t : ClassTables) (ok : Bool → List Str → Prop) : Bool → List Str → List (List Str) → Prop
  | nil {first b} : AllBlank t b → Cut t ok first b []
  | cons {first b1 l b2 rest ls} : AllBlank t b1 → l ≠ [] → ok first l → AllBlank t b2 →
      (b2 = [] → ∀ x, l.getLast? = some x → isBlank t x = false) →
      Cut t ok false rest ls → Cut t ok first (b1 ++ l ++ (b2 ++ rest)) (l :: ls)

namespace Cut
variable {t : ClassTables} {ok : Bool → List Str → Prop}

theorem blank_append {first b cs ls} (hb : AllBlank t b) (h : Cut t ok first cs ls) : Cut t ok first (b ++ cs) ls := by
  cases h with
  | nil h0 => exact .nil (hb.append h0)
  | cons h1 hl hok h2 hlast hr =>
    simpa [List.append_assoc] using Cut.cons (hb.append h1) hl hok h2 hlast hr

theorem wordsOf_eq {first cs ls} (h : Cut t ok first cs ls) : wordsOf t ls.flatten = wordsOf t cs := by
  induction h with
  | nil h0 => exact h0.wordsOf.symm
  | cons h1 _ _ h2 _ _ ih => simp [wordsOf_append, h1.wordsOf, h2.wordsOf, ih]

theorem mem {first cs ls} (h : Cut t ok first cs ls) : ∀ l ∈ ls, l ≠ [] ∧ ∃ p q, cs = p ++ l ++ q := by
  induction h with
  | nil => intro l hl; cases hl
  | @cons _ b1 l b2 _ _ _ hl _ _ _ _ ih =>
    intro l' hl'
    rcases List.mem_cons.mp hl' with rfl | hl'
    · exact ⟨hl, b1, _, rfl⟩
    · obtain ⟨hne, p, q, rfl⟩ := ih l' hl'
      exact ⟨hne, b1 ++ l ++ b2 ++ p, q, by simp [List.append_assoc]⟩

theorem ok_of_false {f cs ls} (h : Cut t ok f cs ls) (hf : f = false) : ∀ l ∈ ls, ok false l := by
  induction h with
  | nil => intro l hl; cases hl
  | cons _ _ hok _ _ _ ih =>
    intro l' hl'
    rcases List.mem_cons.mp hl' with rfl | hl'
    · exact hf ▸ hok
    · exact ih rfl l' hl'

/-- a chunk list that starts with a non-blank chunk yields a first line, which starts with that chunk -/
theorem head_of_nonblank {first c0 cs0 ls} (h : Cut t ok first (c0 :: cs0) ls) (hc0 : isBlank t c0 = false) :
    ∃ l' ls' b2 rest, ls = (c0 :: l') :: ls' ∧ c0 :: cs0 = (c0 :: l') ++ (b2 ++ rest) ∧ ok first (c0 :: l') ∧
      AllBlank t b2 ∧ (b2 = [] → ∀ x, (c0 :: l').getLast? = some x → isBlank t x = false) ∧ Cut t ok false rest ls' := by
  generalize hcs : c0 :: cs0 = cs at h
  cases h with
  | nil h0 => have := h0 c0 (hcs ▸ List.mem_cons_self); simp [hc0] at this
  | @cons _ b1 l b2 rest ls' h1 hl hok h2 hlast hr =>
    cases b1 with
    | cons x b1 =>
      simp only [List.cons_append, List.cons.injEq] at hcs
      have := h1 x List.mem_cons_self; rw [← hcs.1, hc0] at this; cases this
    | nil =>
      cases l with
      | nil => exact absurd rfl hl
      | cons y l' =>
        simp only [List.nil_append, List.cons_append, List.cons.injEq] at hcs
        obtain ⟨rfl, _⟩ := hcs
        exact ⟨l', ls', b2, rest, rfl, rfl, hok, h2, hlast, hr⟩

end Cut

theorem dropLead_spec (t) (first : Bool) (c0 : Str) (cs0 : List Str) :
    ∃ b1, c0 :: cs0 = b1 ++ dropLead t first c0 cs0 ∧ AllBlank t b1 ∧ (dropLead t first c0 cs0 = [] → b1 ≠ []) := by
  unfold dropLead
  split
  · rename_i hb
    exact ⟨[c0], rfl, by simp_all [AllBlank], by simp⟩
  · exact ⟨[], rfl, AllBlank.nil t, by simp⟩

theorem takeFit_spec (w : Nat) (cs cur : List Str) (n : Nat) (h : n ≤ w) :
    ∃ ys zs, takeFit w cur n cs = (cur ++ ys, zs) ∧ cs = ys ++ zs ∧ n + lenSum ys ≤ w ∧
      (ys = [] → ∀ c cs', cs = c :: cs' → w < n + c.length) := by
  fun_induction takeFit w cur n cs with
  | case1 cur n => exact ⟨[], [], by rw [List.append_nil], rfl, h, fun _ _ _ e => nomatch e⟩
  | case2 cur n c cs hle ih =>
    obtain ⟨ys, zs, he, hc, hf, _⟩ := ih hle
    refine ⟨c :: ys, zs, by rw [he, List.append_assoc]; rfl, by rw [hc]; rfl, ?_, fun e => nomatch e⟩
    show n + (c.length + lenSum ys) ≤ w
    omega
  | case3 cur n c cs hle =>
    exact ⟨[], c :: cs, by rw [List.append_nil], rfl, h, fun _ c' _ e => by cases e; omega⟩

/-- the chunks of a line before `drop_whitespace` looks at its end -/
theorem preLine_spec (w : Nat) (cs : List Str) {p : List Str × List Str} (hp : longWord w (takeFit w [] 0 cs) = p) :
    p.1 ++ p.2 = cs ∧ (lenSum p.1 ≤ w ∨ ∃ c, p.1 = [c]) ∧ (cs ≠ [] → p.1 ≠ []) := by
  subst hp
  obtain ⟨ys, zs, he, rfl, hf, hnil⟩ := takeFit_spec w cs [] 0 (Nat.zero_le _)
  rw [he, List.nil_append]
  unfold longWord
  cases zs with
  | nil => exact ⟨rfl, Or.inl (by simpa using hf), by simp⟩
  | cons c zs =>
    simp only
    split
    · rename_i h
      have : ys = [] := by simpa using h.2
      subst this; exact ⟨rfl, Or.inr ⟨c, rfl⟩, by simp⟩
    · rename_i h
      refine ⟨rfl, Or.inl (by simpa using hf), fun _ (hys : ys = []) => h ⟨?_, by simp [hys]⟩⟩
      simpa using hnil hys c zs (by simp [hys])

theorem dropTrail_spec (t) (cur : List Str) :
    ∃ b2, cur = dropTrail t cur ++ b2 ∧ AllBlank t b2 ∧
      (b2 = [] → ∀ x, (dropTrail t cur).getLast? = some x → isBlank t x = false) := by
  unfold dropTrail
  cases hl : cur.getLast? with
  | none => exact ⟨[], by simp, AllBlank.nil t, fun _ x h => by simp [hl] at h⟩
  | some l =>
    obtain ⟨ys, rfl⟩ := List.getLast?_eq_some_iff.mp hl
    by_cases hb : isBlank t l = true
    · exact ⟨[l], by simp [hb], by simp [AllBlank, hb], by simp⟩
    · exact ⟨[], by simp [hb], AllBlank.nil t, fun _ x h => by simp [hb] at h; simpa [← h] using hb⟩

/-- **one line of `_wrap_chunks`**: the line and the chunks left are cut out of the chunk list, what is dropped
before and after the line is blank, the line fits or is one non-blank chunk, and something is consumed -/
theorem lineStep_cut (t : ClassTables) (width iiLen siLen : Nat) (first : Bool) (c0 : Str) (cs0 : List Str)
    {r : List Str × List Str} (hr : lineStep t width iiLen siLen first c0 cs0 = r) :
    ∃ b1 b2, c0 :: cs0 = b1 ++ r.1 ++ (b2 ++ r.2) ∧ AllBlank t b1 ∧ AllBlank t b2 ∧
      (b2 = [] → ∀ x, r.1.getLast? = some x → isBlank t x = false) ∧
      (r.1 ≠ [] → Fits t (width - if first then iiLen else siLen) r.1) ∧ r.2.length < (c0 :: cs0).length := by
  subst hr
  simp only [lineStep]
  generalize width - (if first = true then iiLen else siLen) = w
  obtain ⟨b1, h1, hb1, hne1⟩ := dropLead_spec t first c0 cs0
  generalize dropLead t first c0 cs0 = cs at h1 hne1
  generalize hp : longWord w (takeFit w [] 0 cs) = p
  obtain ⟨happ, hfit, hne⟩ := preLine_spec w cs hp
  obtain ⟨b2, h2, hb2, hlast⟩ := dropTrail_spec t p.1
  refine ⟨b1, b2, ?_, hb1, hb2, hlast, fun hl => ?_, ?_⟩
  · rw [h1, ← happ]; conv => lhs; rw [h2]
    simp [List.append_assoc]
  · rcases hfit with hf | ⟨c, hc⟩
    · left; rw [h2, lenSum_append] at hf; omega
    · rcases List.singleton_eq_append_iff.mp (hc.symm.trans h2) with ⟨e, -⟩ | ⟨e1, e2⟩
      · exact absurd e hl
      · exact Or.inr ⟨c, e1, hlast e2 c (by rw [e1]; rfl)⟩
  · have hlen := congrArg List.length (h1.trans (congrArg (b1 ++ ·) happ.symm))
    simp only [List.length_append, List.length_cons] at hlen ⊢
    by_cases hcs : cs = []
    · have := List.length_pos_iff.mpr (hne1 hcs); omega
    · have := List.length_pos_iff.mpr (hne hcs); omega

/-- **the invariant of `_wrap_chunks`**: the emitted lines are cut out of the chunks consumed, which are all
the chunks when the fuel suffices -/
theorem wrapCur_cut (t : ClassTables) (width iiLen siLen : Nat) (fuel : Nat) (first : Bool) (cs : List Str) :
    ∃ pre rest, cs = pre ++ rest ∧ (cs.length < fuel → rest = []) ∧
      Cut t (fun f => Fits t (width - if f then iiLen else siLen)) first pre (wrapCur t width iiLen siLen fuel first cs) := by
  fun_induction wrapCur t width iiLen siLen fuel first cs with
  | case1 first cs => exact ⟨[], cs, rfl, fun h => by omega, .nil (AllBlank.nil t)⟩
  | case2 => exact ⟨[], [], rfl, fun _ => rfl, .nil (AllBlank.nil t)⟩
  | case3 fuel first c0 cs0 r hemp ih =>
    obtain ⟨b1, b2, hdec, hb1, hb2, -, -, hlt⟩ := lineStep_cut t width iiLen siLen first c0 cs0 (r := r) rfl
    obtain ⟨pre, rest, hpr, hfuel, ih⟩ := ih
    refine ⟨(b1 ++ b2) ++ pre, rest, ?_, fun h => hfuel (by simp only [List.length_cons] at hlt h; omega),
      ih.blank_append (hb1.append hb2)⟩
    rw [hdec, hpr, List.isEmpty_iff.mp hemp]; simp
  | case4 fuel first c0 cs0 r hemp ih =>
    obtain ⟨b1, b2, hdec, hb1, hb2, hlast, hfit, hlt⟩ := lineStep_cut t width iiLen siLen first c0 cs0 (r := r) rfl
    obtain ⟨pre, rest, hpr, hfuel, ih⟩ := ih
    have hl : r.1 ≠ [] := fun e => hemp (by simp [e])
    refine ⟨_, rest, ?_, fun h => hfuel (by simp only [List.length_cons] at hlt h; omega),
      .cons hb1 hl (hfit hl) hb2 hlast ih⟩
    conv => lhs; rw [hdec, hpr]
    simp

theorem wrapCur_cut_all (t : ClassTables) (width iiLen siLen : Nat) (fuel : Nat) (first : Bool) (cs : List Str)
    (h : cs.length < fuel) :
    Cut t (fun f => Fits t (width - if f then iiLen else siLen)) first cs (wrapCur t width iiLen siLen fuel first cs) := by
  obtain ⟨pre, rest, hpr, hfuel, hc⟩ := wrapCur_cut t width iiLen siLen fuel first cs
  have e : pre = cs := by rw [hpr, hfuel h, List.append_nil]
  exact e ▸ hc

theorem wrapCur_fits (t : ClassTables) (width iiLen siLen : Nat) (fuel : Nat) (first : Bool) (cs : List Str)
    {l : List Str} {ls : List (List Str)} (h : wrapCur t width iiLen siLen fuel first cs = l :: ls) :
    Fits t (width - if first then iiLen else siLen) l ∧ ∀ l' ∈ ls, Fits t (width - siLen) l' := by
  obtain ⟨pre, rest, _, _, hc⟩ := wrapCur_cut t width iiLen siLen fuel first cs
  rw [h] at hc
  cases hc with
  | cons _ _ hok _ _ hr => exact ⟨hok, hr.ok_of_false rfl⟩

theorem width_bound (t : ClassTables) (width iiLen siLen : Nat) :
    ∀ (fuel : Nat) (first : Bool) (cs : List Str),
      match wrapCur t width iiLen siLen fuel first cs with
      | [] => True
      | l :: ls => (lenSum l ≤ width - (if first then iiLen else siLen) ∨ l.length ≤ 1) ∧
                   ∀ l' ∈ ls, (lenSum l' ≤ width - siLen ∨ l'.length ≤ 1) := by
  intro fuel first cs
  have weak : ∀ {w} {l : List Str}, Fits t w l → lenSum l ≤ w ∨ l.length ≤ 1 :=
    fun h => h.imp_right fun ⟨c, e, _⟩ => by simp [e]
  split
  · trivial
  · rename_i h
    have := wrapCur_fits t width iiLen siLen fuel first cs h
    exact ⟨weak this.1, fun l' hl' => weak (this.2 l' hl')⟩

/-- **Width bound, sharp**: every emitted line fits its width (chunk lengths ≤ width − indent) or is one
non-blank chunk. The first emitted line is measured with `initial_indent`. -/
theorem width_bound' (t : ClassTables) (width iiLen siLen : Nat) :
    ∀ (fuel : Nat) (first : Bool) (cs : List Str),
      match wrapCur t width iiLen siLen fuel first cs with
      | [] => True
      | l :: ls => (lenSum l ≤ width - (if first then iiLen else siLen) ∨ ∃ c, l = [c] ∧ isBlank t c = false) ∧
                   ∀ l' ∈ ls, (lenSum l' ≤ width - siLen ∨ ∃ c, l' = [c] ∧ isBlank t c = false) := by
  intro fuel first cs
  split
  · trivial
  · rename_i h
    exact wrapCur_fits t width iiLen siLen fuel first cs h

end GapicModel.Lemmas.Textwrap
