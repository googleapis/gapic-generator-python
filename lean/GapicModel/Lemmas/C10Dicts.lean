import GapicModel.Model.Determinism
import GapicModel.Lemmas.Keyed
/-
Python's insertion-ordered `dict` (`OMap`): key order and lookup after `d[k] = v`, `dict.update` and a dict
comprehension.  The keys of every dict built that way are the first occurrences (`dedup`) of the keys written,
so the algebra of `dedup` comes first.  Last: lookups in a table with distinct keys do not see the order of
the table.
-/
namespace GapicModel.Lemmas.C10Dicts
open GapicModel.Model.Determinism
open List

section Dedup
variable {α : Type} [DecidableEq α]

theorem mem_dedup (a : α) (xs : List α) : a ∈ dedup xs ↔ a ∈ xs := by
  induction xs with
  | nil => simp [dedup]
  | cons x xs ih => by_cases h : a = x <;> simp [dedup, ih, h]

theorem nodup_dedup (xs : List α) : (dedup xs).Nodup := by
  induction xs with
  | nil => simp [dedup]
  | cons x xs ih =>
    simp only [dedup, nodup_cons, mem_filter, decide_eq_true_eq]
    exact ⟨fun h => h.2 rfl, ih.filter _⟩

theorem dedup_of_nodup (xs : List α) (h : xs.Nodup) : dedup xs = xs := by
  induction xs with
  | nil => rfl
  | cons x xs ih =>
    rw [nodup_cons] at h
    rw [dedup, ih h.2]
    exact congrArg _ (filter_eq_self.mpr fun a ha => decide_eq_true fun e => h.1 (e ▸ ha))

theorem dedup_dedup (xs : List α) : dedup (dedup xs) = dedup xs := dedup_of_nodup _ (nodup_dedup xs)

theorem dedup_append (x y : List α) :
    dedup (x ++ y) = dedup x ++ (dedup y).filter (fun k => decide (k ∉ x)) := by
  induction x with
  | nil => exact (filter_eq_self.mpr (by simp)).symm
  | cons a x ih =>
    simp only [cons_append, dedup, ih, filter_append, filter_filter]
    congr 2
    apply filter_congr
    intro k _
    by_cases h1 : k = a <;> by_cases h2 : k ∈ x <;> simp [h1, h2]

theorem dedup_append_dedup_left (x y : List α) : dedup (dedup x ++ y) = dedup (x ++ y) := by
  rw [dedup_append, dedup_append, dedup_dedup]
  congr 1
  apply filter_congr
  intro k _
  simp [mem_dedup]

theorem dedup_append_dedup_right (x y : List α) : dedup (x ++ dedup y) = dedup (x ++ y) := by
  rw [dedup_append, dedup_append, dedup_dedup]

end Dedup

section OMapLemmas
variable {V : Type}

theorem keys_nil : OMap.keys ([] : OMap V) = [] := rfl

theorem keys_append (a b : OMap V) : OMap.keys (a ++ b) = a.keys ++ OMap.keys b :=
  map_append

theorem keys_map {W : Type} (m : OMap V) (f : Str × V → W) : OMap.keys (m.map fun p => (p.1, f p)) = m.keys := by
  simp [OMap.keys, Function.comp_def]

theorem keys_set (d : OMap V) (k : Str) (v : V) :
    (d.set k v).keys = if k ∈ d.keys then d.keys else d.keys ++ [k] := by
  unfold OMap.keys
  fun_induction OMap.set d k v with
  | case1 k v => rfl
  | case2 v' rest k v => simp
  | case3 k' v' rest k v h ih => simp only [map_cons, ih, mem_cons, Ne.symm h, false_or]; split <;> rfl

theorem set_of_not_mem (d : OMap V) (k : Str) (v : V) (h : k ∉ d.keys) : d.set k v = d ++ [(k, v)] := by
  unfold OMap.keys at h
  fun_induction OMap.set d k v with
  | case1 k v => rfl
  | case2 v' rest k v => simp at h
  | case3 k' v' rest k v _ ih => rw [ih fun hm => h (mem_cons_of_mem _ hm)]; rfl

theorem get_set (d : OMap V) (k : Str) (v : V) (k' : Str) :
    (d.set k v).get? k' = if k' = k then some v else d.get? k' := by
  unfold OMap.get?
  fun_induction OMap.set d k v with
  | case1 k v => simp [eq_comm]
  | case2 v₀ rest k v => by_cases h' : k = k' <;> simp [h', Ne.symm]
  | case3 k₀ v₀ rest k v h ih =>
    by_cases h' : k₀ = k'
    · simp [h', h' ▸ h]
    · simp [h', ih]

theorem update_nil (a : OMap V) : a.update [] = a := rfl

theorem update_cons (a : OMap V) (p : Str × V) (b : List (Str × V)) : a.update (p :: b) = (a.set p.1 p.2).update b := rfl

theorem update_append (a : OMap V) (b c : List (Str × V)) : a.update (b ++ c) = (a.update b).update c :=
  foldl_append

theorem foldl_update (ts : List (List (Str × V))) (a : OMap V) : ts.foldl OMap.update a = a.update ts.flatten := by
  induction ts generalizing a with
  | nil => rfl
  | cons t ts ih => rw [foldl_cons, ih, flatten_cons, update_append]

/-- **keys after `a.update(b)`**: the keys of `a` in place, then the NEW keys of `b` at their first occurrence -/
theorem keys_update (a : OMap V) (b : List (Str × V)) :
    (a.update b).keys = a.keys ++ (dedup (b.map (·.1))).filter (fun k => decide (k ∉ a.keys)) := by
  induction b generalizing a with
  | nil => simp [update_nil, dedup]
  | cons p b ih =>
    rw [update_cons, ih, keys_set]
    by_cases hk : p.1 ∈ a.keys
    · simp only [hk, if_true, map_cons, dedup, filter_cons, not_true_eq_false, decide_false, filter_filter]
      congr 1
      apply filter_congr
      intro x _
      by_cases h2 : x = p.1
      · subst h2; simp [hk]
      · simp [h2]
    · simp only [hk, if_false, map_cons, dedup, filter_cons, not_false_eq_true, decide_true, if_true, filter_filter,
        append_assoc, singleton_append]
      congr 2
      apply filter_congr
      intro x _
      by_cases h1 : x ∈ a.keys <;> by_cases h2 : x = p.1 <;> simp [h1, h2]

theorem keys_update_nodup (a : OMap V) (b : List (Str × V)) (h : a.keys.Nodup) :
    (a.update b).keys = dedup (a.keys ++ b.map (·.1)) := by
  rw [keys_update, dedup_append, dedup_of_nodup _ h]
  congr 1
  apply filter_congr
  intro x _
  simp

theorem nodup_keys_update (a : OMap V) (b : List (Str × V)) (h : a.keys.Nodup) : (a.update b).keys.Nodup := by
  rw [keys_update_nodup a b h]; exact nodup_dedup _

/-- the invariant of every dict the generator builds: "the keys are the first occurrences of what was written so
far" is kept by `update` … -/
theorem keys_update_dedup (a : OMap V) (b : List (Str × V)) (x : List Str) (ha : a.keys = dedup x) :
    (a.update b).keys = dedup (x ++ b.map (·.1)) := by
  rw [keys_update_nodup _ _ (ha ▸ nodup_dedup x), ha, dedup_append_dedup_left]

/-- … and by an update that may not take place -/
theorem keys_ite_update (c : Bool) (a b : OMap V) (x y : List Str) (ha : a.keys = dedup x) (hb : b.keys = dedup y) :
    (if c then a.update b else a).keys = dedup (x ++ if c then y else []) := by
  cases c
  · simpa using ha
  · exact (keys_update_dedup a b x ha).trans (by rw [show b.map (·.1) = b.keys from rfl, hb, dedup_append_dedup_right]; rfl)

/-- **lookup after `a.update(b)`**: the LAST item of `b` with that key wins, else `a`'s value -/
theorem get_update (a : OMap V) (b : List (Str × V)) (k : Str) :
    (a.update b).get? k = ((b.reverse.find? (fun p => p.1 = k)).map (·.2)).or (a.get? k) := by
  induction b generalizing a with
  | nil => simp [update_nil]
  | cons p b ih =>
    rw [update_cons, ih, reverse_cons, find?_append, get_set]
    cases b.reverse.find? (fun q => q.1 = k) with
    | some q => simp
    | none => by_cases hk : k = p.1 <;> simp [hk, eq_comm]

theorem update_of_fresh (a : OMap V) (b : List (Str × V)) (h : (a.keys ++ b.map (·.1)).Nodup) :
    a.update b = a ++ b :=
  (Keyed.foldl_eq_append Prod.fst _ id (fun d p => set_of_not_mem d p.1 p.2) b a h).trans (by rw [map_id])

/-- **keys of a dict comprehension**: the first occurrences of the keys, in order -/
theorem keys_ofPairs (ps : List (Str × V)) : (OMap.ofPairs ps).keys = dedup (ps.map (·.1)) :=
  keys_update_nodup [] ps nodup_nil

theorem nodup_keys_ofPairs (ps : List (Str × V)) : (OMap.ofPairs ps).keys.Nodup := by
  rw [keys_ofPairs]; exact nodup_dedup _

theorem get_ofPairs (ps : List (Str × V)) (k : Str) :
    (OMap.ofPairs ps).get? k = (ps.reverse.find? (fun p => p.1 = k)).map (·.2) := by
  rw [OMap.ofPairs, get_update]; exact Option.or_none

/-- a dict comprehension over distinct keys IS the list of its items -/
theorem ofPairs_of_nodup (ps : List (Str × V)) (h : (ps.map (·.1)).Nodup) : OMap.ofPairs ps = ps :=
  update_of_fresh [] ps h

end OMapLemmas

section Tables

theorem find_key_eq_some {β : Type} {t : List (Str × β)} (hnd : (t.map (·.1)).Nodup) {k : Str} {e : Str × β} :
    t.find? (fun x => x.1 = k) = some e ↔ e ∈ t ∧ e.1 = k := by
  refine ⟨fun h => ⟨mem_of_find?_eq_some h, by simpa using find?_some h⟩, ?_⟩
  rintro ⟨he, rfl⟩
  exact Keyed.find?_eq_of_key (·.1) _ e t hnd he fun _ => decide_eq_true_iff

/-- lookups in a table with distinct keys do not depend on the order of the table -/
theorem find_key_perm {β : Type} (t t' : List (Str × β)) (h : t.Perm t') (hnd : (t.map (·.1)).Nodup) (k : Str) :
    t.find? (fun x => x.1 = k) = t'.find? (fun x => x.1 = k) :=
  Option.ext fun e => by rw [find_key_eq_some hnd, find_key_eq_some ((h.map _).nodup_iff.mp hnd), h.mem_iff]

theorem name?_perm (t t' : MethodTable) (h : t.Perm t') (hnd : (t.map (·.1)).Nodup) (sel : Str) :
    t.name? sel = t'.name? sel := by
  simp only [MethodTable.name?, find_key_perm t t' h hnd sel]

end Tables

end GapicModel.Lemmas.C10Dicts
