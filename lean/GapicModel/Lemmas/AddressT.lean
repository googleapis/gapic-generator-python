import GapicModel.Model.AddressT
import GapicModel.Lemmas.Tables
import GapicModel.Lemmas.SplitJoin
/-
Theorems about `Address` naming, stated over the bodies translated from the current source (Model/AddressT.lean), method by
method.  The `…_never_raises` theorems are about the `_ok` companions of the translation: no index expression the method
evaluates is out of range.
-/
namespace GapicModel.Lemmas.AddressT
open GapicModel.PyRt GapicModel.Pinned.Funcs GapicModel.Model.AddressT

theorem startswith_nil (s : Str) : startswith s [] = true := by simp [startswith]

theorem inRange_iff {n k : Int} : inRange n k = true ↔ -n ≤ k ∧ k < n := by simp [inRange]

theorem inRange_zero_of_truthy {α} (l : List α) (h : truthy l = true) : inRange (len l) 0 = true := by
  cases l with
  | nil => simp [truthy] at h
  | cons x xs => rw [inRange_iff, len, List.length_cons]; omega

/-- `Address.__str__` for an address with a module: `<m>.<parent…>.<name>`, where `<m>` is `<module>_pb2` for a type that is not
proto-plus, else the alias when there is one, else the module -/
theorem str_eq (a : Addr) (hm : truthy a.module = true) :
    str a = join ['.'] ([if isProtoPlus a then (if truthy (moduleAlias a) then moduleAlias a else a.module)
                         else a.module ++ ['_', 'p', 'b', '2']] ++ a.parent ++ [a.name]) := by
  rw [str, address_str, if_pos hm]
  cases isProtoPlus a <;> cases truthy (moduleAlias a) <;> rfl

/-- the name `Address.python_import` binds is one of the same three; `<module>_pb2` comes from the last of its four branches -/
theorem bound_pythonImport (a : Addr) :
    bound (pythonImport a) =
      if a.naming.truthy && !startswith (protoPackage a) a.naming.protoPackage && !isProtoPlus a
      then a.module ++ ['_', 'p', 'b', '2'] else if truthy (moduleAlias a) then moduleAlias a else a.module := by
  rw [pythonImport, address_python_import]
  cases a.naming.truthy <;> cases startswith (protoPackage a) a.naming.protoPackage <;> cases isProtoPlus a <;> rfl

/-- `bool(api_naming)` is false only for the all-default `Naming` (its `__bool__` is `any(fields)`), whose `proto_package` is "" -/
def NamingInv (n : NamingV) : Prop := n.truthy = false → n.protoPackage = []

/-- **the import binds the name the references use** — for every address with a module, under every naming:
`str(address)` is `<bound name of address.python_import>.<parent…>.<name>`, in all four import branches (no naming,
own API, proto-plus dependency, `_pb2` dependency), with or without an alias.  (The trial change `seeded/seed8_C12`, which
drops `alias=` from the proto-plus branch, makes this false.) -/
theorem import_binds_str_head (a : Addr) (hm : truthy a.module = true) (hn : NamingInv a.naming) :
    str a = join ['.'] ([bound (pythonImport a)] ++ a.parent ++ [a.name]) := by
  -- under `hn` the `_pb2` branch of `python_import` is taken exactly when the type is not a proto-plus type
  rw [str_eq a hm, bound_pythonImport]
  cases hp : isProtoPlus a
  · have hs : startswith (protoPackage a) a.naming.protoPackage = false := (Bool.or_eq_false_iff.mp hp).1
    have ht : a.naming.truthy = true := by
      cases h : a.naming.truthy
      · rw [hn h, startswith_nil] at hs; cases hs
      · rfl
    simp [ht, hs]
  · simp

/-- `Address.rel` never raises IndexError: every `parent[0]` is guarded by the truthiness of that tuple -/
theorem rel_never_raises (sp : List Str) (sm : Str) (spar : List Str) (sn : Str) (op : List Str) (om : Str) (opar : List Str) (on s : Str) :
    address_rel_ok sp sm spar sn op om opar on s = true := by
  unfold address_rel_ok
  by_cases h1 : truthy spar = true <;> by_cases h2 : truthy opar = true <;>
    simp [h1, h2, inRange_zero_of_truthy]

def quoted (s : Str) : Prop := ∃ body, s = [Char.ofNat 39] ++ body ++ [Char.ofNat 39]

/-- **what `rel` can answer.**  For a type of another file: `str(self)`.  For a type of the file being written: a QUOTED
(late-bound) name — except for a type nested in the top-level message being written (`address.parent = ()` and
`self.parent[0] == address.name`), which gets the bare name relative to that message.  In particular a bare name is never
produced for a reference to the enclosing message itself or to an earlier top-level declaration (the trial change
`seeded/seed8_C02` does that). -/
theorem rel_cases (a b : Addr) :
    ((a.package == b.package && a.module == b.module) = false ∧ rel a b = str a) ∨
    ((a.package == b.package && a.module == b.module) = true ∧
      (quoted (rel a b) ∨
       (b.parent = [] ∧ a.parent.head? = some b.name ∧ rel a b = join ['.'] (a.parent.drop 1 ++ [a.name])))) := by
  rw [rel, address_rel]
  cases a.package == b.package && a.module == b.module
  · exact .inl ⟨rfl, rfl⟩
  · refine .inr ⟨rfl, ?_⟩
    rw [if_pos rfl]
    split
    · exact .inl ⟨join ['.'] a.parent ++ ['.'] ++ a.name, by simp⟩
    · split
      · rename_i h
        simp only [Bool.and_eq_true, Bool.not_eq_true', beq_iff_eq] at h
        obtain ⟨⟨hp, hb⟩, hh⟩ := h
        obtain ⟨x, xs, hap⟩ := List.exists_cons_of_ne_nil (SplitJoin.truthy_iff.mp hp)
        refine .inr ⟨by cases hbp : b.parent <;> simp [hbp, truthy] at hb ⊢, ?_, ?_⟩
        · simpa [hap, idxList] using hh
        · simp [hap, slice, normIdx]
      · exact .inl ⟨join ['.'] (a.parent ++ [a.name]), rfl⟩

/-- `Address.module_alias` never raises (after a6e34e6: empty `_`-parts are skipped; before it this was false, e.g. for the
package segment `lib_`) -/
theorem module_alias_never_raises (m : Str) (c pk : List Str) (v : Str) : address_module_alias_ok m c pk v = true := by
  unfold address_module_alias_ok
  split
  · simp only [List.all_eq_true]
    intro i _ pn _
    by_cases h : ((i != v) && truthy pn) = true
    · simp [h, inRange_zero_of_truthy pn (Bool.and_eq_true_iff.mp h).2]
    · simp [h]
  · rfl

/-- the initials part of an alias -/
def initials (pk : List Str) (v : Str) : Str :=
  join [] (pk.flatMap fun i => ((split i ['_']).filter fun pn => (i != v) && truthy pn).map fun pn => idxStr pn 0)

/-- `Address.module_alias` is `<initials>_<module>` when the module name collides or is reserved, and empty otherwise -/
theorem module_alias_eq (m : Str) (c pk : List Str) (v : Str) :
    address_module_alias m c pk v =
      if strIn m c || strIn m (Pinned.reservedNames.map String.toList) then initials pk v ++ ['_'] ++ m else [] := by
  unfold address_module_alias initials
  split <;> rfl

/-- the alias, when there is one, is `<initials>_<module>`; there is one exactly when the module name collides or is reserved -/
theorem module_alias_shape (m : Str) (c pk : List Str) (v : Str) :
    (address_module_alias m c pk v = [] ∧ (strIn m c || strIn m (Pinned.reservedNames.map String.toList)) = false) ∨
    (∃ ini, address_module_alias m c pk v = ini ++ ['_'] ++ m ∧ (strIn m c || strIn m (Pinned.reservedNames.map String.toList)) = true) := by
  rw [module_alias_eq]
  cases strIn m c || strIn m (Pinned.reservedNames.map String.toList)
  · exact .inl ⟨rfl, rfl⟩
  · exact .inr ⟨_, rfl, rfl⟩

/-- an alias is never the module name itself (so an aliased import really frees the colliding name) -/
theorem module_alias_ne_module (m : Str) (c pk : List Str) (v : Str) (h : address_module_alias m c pk v ≠ []) :
    address_module_alias m c pk v ≠ m := by
  rcases module_alias_shape m c pk v with ⟨h0, _⟩ | ⟨ini, he, _⟩
  · exact absurd h0 h
  · rw [he]
    intro e
    have := congrArg List.length e
    simp at this
    omega

/-- **counterexample to "two imported modules that share a base name get different aliases"**: the sub-packages `admin` and
`audit` of `acme.lib.v1` have the same initials, so `common.proto` of both is imported `as ala_common` and the second import
rebinds the first (replayed on the real generator: corpus/C12, finding `alias-collision:same-initials`) -/
theorem alias_not_injective_counterexample :
    address_module_alias "common".toList ["common".toList] ["acme".toList, "lib".toList, "v1".toList, "admin".toList] "v1".toList =
    address_module_alias "common".toList ["common".toList] ["acme".toList, "lib".toList, "v1".toList, "audit".toList] "v1".toList := by
  simp -index only [String.toList_ofList]
  unfold address_module_alias
  simp only [Tables.reserved_eq]
  decide +kernel

/-- what does hold (`…_partial`: the full claim "different packages ⇒ different aliases" is false, see above): two colliding
modules of the same base name get different aliases exactly when their packages' initials differ -/
theorem alias_distinct_iff_initials_partial (m : Str) (c1 c2 pk1 pk2 : List Str) (v : Str)
    (h1 : (strIn m c1 || strIn m (Pinned.reservedNames.map String.toList)) = true)
    (h2 : (strIn m c2 || strIn m (Pinned.reservedNames.map String.toList)) = true) :
    address_module_alias m c1 pk1 v = address_module_alias m c2 pk2 v ↔ initials pk1 v = initials pk2 v := by
  rw [module_alias_eq, module_alias_eq, if_pos h1, if_pos h2, List.append_left_inj, List.append_left_inj]

/-- `convert_to_versioned_package` raises exactly for the empty package -/
theorem versioned_package_ok_iff (pk : List Str) : address_versioned_package_ok pk = true ↔ pk ≠ [] := by
  unfold address_versioned_package_ok
  cases pk with
  | nil => simp [inRange, len]
  | cons x xs =>
    have h1 : inRange (len (x :: xs)) (-1) = true := by rw [inRange_iff, len, List.length_cons]; omega
    simp only [h1, Bool.true_and, ne_eq, reduceCtorEq, not_false_eq_true, iff_true]
    split
    · next h =>
      have := of_decide_eq_true (Bool.and_eq_true_iff.mp h).2
      rw [inRange_iff]; omega
    · rfl

/-- `convert_to_versioned_package` only recognises the version as the LAST segment: for `acme.dep.v1.sub` it answers the package
unchanged, so the import is `from acme.dep.v1.sub.types import common`, while the dependency's own library (this generator, own-API
branch: module namespace + `dep_v1` + sub-package + `types`) ships `….dep_v1.sub.types` — replayed on the real `Address` objects
(C12, finding `proto-plus-dep:sub-package-of-versioned`) -/
theorem versioned_package_subpackage_counterexample :
    address_versioned_package ["acme".toList, "dep".toList, "v1".toList, "sub".toList]
      = ["acme".toList, "dep".toList, "v1".toList, "sub".toList] ∧
    address_versioned_package ["acme".toList, "dep".toList, "v1".toList] = ["acme".toList, "dep_v1".toList] := by
  simp -index only [String.toList_ofList]
  decide +kernel

end GapicModel.Lemmas.AddressT
