import GapicModel.Model.Emit
import GapicModel.Model.Layout
/-
Lemmas of `Model/Emit.lean` and `Model/Layout.lean` that Props/C01 and Props/C11 share: `getFilename` is segment-wise,
`dedup` keeps the members, which templates `renders` uses (`alwaysOn`: those that no rule on the template name drops), which
files one template yields at one view, and for which views a `%sub` template is rendered (`shapeViews`).
-/
namespace GapicModel.Lemmas.Emit
open GapicModel.Model.Emit GapicModel.Model.Layout

theorem getFilename_append (c : Ctx) (d rest : TPath) :
    getFilename c (d ++ rest) = getFilename c d ++ getFilename c rest := by
  simp [getFilename]

theorem getFilename_lits (c : Ctx) (l : Path) (h : ∀ x ∈ l, x ≠ []) :
    getFilename c (l.map fun x => [Part.lit x]) = l := by
  induction l with
  | nil => rfl
  | cons x xs ih =>
    have hx : x ≠ [] := h x (by simp)
    rw [List.map_cons, ← List.singleton_append, getFilename_append, ih fun y hy => h y (by simp [hy])]
    simp [getFilename, segOut, partText, hx]

theorem mem_dedup (l : List Path) (p : Path) : p ∈ dedup l ↔ p ∈ l := by
  induction l with
  | nil => simp [dedup]
  | cons a t ih =>
    simp only [dedup, List.mem_cons, List.mem_filter, decide_eq_true_eq, ih]
    by_cases h : p = a <;> simp [h]

theorem nodup_dedup (l : List Path) : (dedup l).Nodup := by
  induction l with
  | nil => simp [dedup]
  | cons a t ih =>
    simp only [dedup, List.nodup_cons, List.mem_filter, decide_eq_true_eq]
    exact ⟨fun h => h.2 rfl, ih.filter _⟩

theorem all_dedup (l : List Path) (p : Path → Bool) : (dedup l).all p = l.all p := by
  rw [Bool.eq_iff_iff]
  simp only [List.all_eq_true, mem_dedup]

theorem mem_renders {o : Opts} {sh : Shape} {ts : List Str} {p : Path} :
    p ∈ renders o sh ts ↔ ∃ t ∈ ts, isPrivate t = false ∧ isSampleTemplate t = false ∧ p ∈ renderTemplate o sh t := by
  simp [renders, and_assoc]

theorem renders_append (o : Opts) (sh : Shape) (a b : List Str) :
    renders o sh (a ++ b) = renders o sh a ++ renders o sh b := by
  simp [renders]

theorem responseNames_contains_mono {o : Opts} {sh : Shape} {ts' ts : List Str} (h : ∀ t ∈ ts', t ∈ ts) {f : Path}
    (hf : (responseNames o sh ts').contains f = true) : (responseNames o sh ts).contains f = true := by
  simp only [responseNames, List.contains_iff_mem, mem_dedup, mem_renders] at hf ⊢
  obtain ⟨t, ht, rest⟩ := hf
  exact ⟨t, h t ht, rest⟩

theorem renders_not_nodup (o : Opts) (sh : Shape) (pre post : List Str) (p : Path)
    (h1 : p ∈ renders o sh pre) (h2 : p ∈ renders o sh post) : ¬ (renders o sh (pre ++ post)).Nodup := by
  rw [renders_append, List.nodup_append]
  exact fun h => h.2.2 p h1 p h2 rfl

theorem mem_renderView {o : Opts} {nm : Naming} {tname : Str} {t : TPath} {view : Path} {services protos : List Str}
    {f : Path} :
    f ∈ renderView o nm tname t view services protos ↔
      if hasVar t .proto then ∃ p ∈ protos, f = getFilename ⟨nm, view, none, some p⟩ t
      else if hasVar t .service then
        serviceGate tname o = true ∧ ∃ s ∈ services, f = getFilename ⟨nm, view, some s, none⟩ t
      else f = getFilename ⟨nm, view, none, none⟩ t := by
  unfold renderView
  split
  · simp [eq_comm]
  · split
    · split <;> simp [*, eq_comm]
    · simp

theorem renderView_view {o : Opts} {nm : Naming} {tname : Str} {t : TPath} {view : Path} {services protos : List Str}
    {f : Path} (hf : f ∈ renderView o nm tname t view services protos) :
    ∃ svc proto, f = getFilename ⟨nm, view, svc, proto⟩ t := by
  rw [mem_renderView] at hf
  split at hf
  · obtain ⟨p, -, h⟩ := hf
    exact ⟨none, some p, h⟩
  · split at hf
    · obtain ⟨-, s, -, h⟩ := hf
      exact ⟨some s, none, h⟩
    · exact ⟨none, none, hf⟩

theorem renderView_service (o : Opts) (nm : Naming) (tname : Str) (t : TPath) (view : Path) (services protos : List Str)
    (hp : hasVar t .proto = false) (hv : hasVar t .service = true) (hg : serviceGate tname o = true) :
    renderView o nm tname t view services protos = services.map fun s => getFilename ⟨nm, view, some s, none⟩ t := by
  simp [renderView, hp, hv, hg]

/-- the API views `_render_template` renders a `%sub` template for, each with the services and protos it sees there:
every sub-package, then the API package itself (which sees everything when there is no sub-package) -/
def shapeViews (sh : Shape) : List SubPkg :=
  sh.subs ++ [if sh.subs.isEmpty then ⟨[], allServices sh, allProtos sh⟩ else ⟨[], sh.root.services, sh.root.protos⟩]

theorem renderTemplate_sub (o : Opts) (sh : Shape) (tname : Str)
    (h1 : ¬ (!o.metadata && ['g', 'a', 'p', 'i', 'c', '_', 'm', 'e', 't', 'a', 'd', 'a', 't', 'a', '.', 'j', 's', 'o', 'n', '.', 'j', '2'].isSuffixOf tname) = true)
    (h2 : ¬ (startsWith ['%', 'n', 'a', 'm', 'e', 's', 'p', 'a', 'c', 'e', '/', '%', 'n', 'a', 'm', 'e', '/'] tname && o.unversionedDisabled) = true)
    (hs : hasVar (parseTemplate tname) .sub = true) :
    renderTemplate o sh tname =
      (shapeViews sh).flatMap fun sp => renderView o sh.naming tname (parseTemplate tname) sp.view sp.services sp.protos := by
  simp only [renderTemplate, if_neg h1, if_neg h2, hs, if_true, shapeViews, List.flatMap_append, List.flatMap_singleton]
  split <;> rfl

/-- no rule that looks at the template name alone drops the template, whatever the options: it is neither private nor
the sample template, neither `gapic_metadata.json` nor below the unversioned alias package -/
def alwaysOn (t : Str) : Bool :=
  !isPrivate t && !isSampleTemplate t &&
  !['g', 'a', 'p', 'i', 'c', '_', 'm', 'e', 't', 'a', 'd', 'a', 't', 'a', '.', 'j', 's', 'o', 'n', '.', 'j', '2'].isSuffixOf t &&
  !startsWith ['%', 'n', 'a', 'm', 'e', 's', 'p', 'a', 'c', 'e', '/', '%', 'n', 'a', 'm', 'e', '/'] t

theorem mem_renders_of_alwaysOn {o : Opts} {sh : Shape} {ts : List Str} {t : Str} (ht : t ∈ ts) (hon : alwaysOn t = true)
    {f : Path} (hf : f ∈ renderTemplate o sh t) : f ∈ renders o sh ts := by
  simp only [alwaysOn, Bool.and_eq_true, Bool.not_eq_true'] at hon
  exact mem_renders.mpr ⟨t, ht, hon.1.1.1, hon.1.1.2, hf⟩

theorem renderTemplate_alwaysOn (o : Opts) (sh : Shape) {t : Str} (hon : alwaysOn t = true)
    (hs : hasVar (parseTemplate t) .sub = true) :
    renderTemplate o sh t =
      (shapeViews sh).flatMap fun sp => renderView o sh.naming t (parseTemplate t) sp.view sp.services sp.protos := by
  simp only [alwaysOn, Bool.and_eq_true, Bool.not_eq_true'] at hon
  exact renderTemplate_sub o sh t (by simp [hon.1.2]) (by simp [hon.2]) hs

theorem mem_prefixes (p v : Path) : v ∈ prefixes p ↔ v ≠ [] ∧ ∃ w, p = v ++ w := by
  induction p generalizing v with
  | nil => cases v <;> simp [prefixes]
  | cons s r ih =>
    cases v with
    | nil => simp [prefixes]
    | cons a u =>
      simp only [prefixes, List.mem_cons, List.mem_map, List.cons.injEq, ih, List.cons_append, ne_eq,
        reduceCtorEq, not_false_eq_true, true_and]
      constructor
      · rintro (⟨rfl, rfl⟩ | ⟨u', ⟨-, w, rfl⟩, rfl, rfl⟩)
        · exact ⟨r, rfl, rfl⟩
        · exact ⟨w, rfl, rfl⟩
      · rintro ⟨w, rfl, rfl⟩
        by_cases hu : u = []
        · exact Or.inl ⟨rfl, hu⟩
        · exact Or.inr ⟨u, ⟨hu, w, rfl⟩, rfl, rfl⟩

theorem mem_viewsOf (subs : List Path) (v : Path) : v ∈ viewsOf subs ↔ v ≠ [] ∧ ∃ p ∈ subs, ∃ w, p = v ++ w := by
  simp only [viewsOf, mem_dedup, List.mem_flatMap, mem_prefixes]
  exact ⟨fun ⟨p, hp, hne, h⟩ => ⟨hne, p, hp, h⟩, fun ⟨hne, p, hp, h⟩ => ⟨p, hp, hne, h⟩⟩

theorem shapeViews_shapeOf (nm : Naming) (ps : List ProtoAt) :
    shapeViews (shapeOf nm ps) = (viewsOf (ps.map fun p : ProtoAt => p.sub) ++ [[]]).map (subPkgAt ps) := by
  cases h : viewsOf (ps.map fun p : ProtoAt => p.sub) <;>
    simp [shapeViews, shapeOf, allServices, allProtos, h, subPkgAt]

end GapicModel.Lemmas.Emit
