import GapicModel.Model.Paging
/-
Helper lemmas for C07 (`Model/Paging.lean`).  Big-step: the page loop `pagesGen` in closed form, over `takeThrough`.
Small-step (`fetch`, `genNext`, `itemNext`, `step`, `exec`): `fetch` characterised once; the principle that whatever one
`fetch` preserves every program preserves, and its instance `Good`; the link between an iterator's state and the page loop.
-/
namespace GapicModel.Lemmas.C07Steps
open GapicModel.Model.Paging

variable {ι ρ : Type}

theorem takeThrough_cons (p : Page ι) (ps : List (Page ι)) :
    takeThrough (p :: ps) = p :: if p.token = [] then [] else takeThrough ps := by
  simp only [takeThrough]; split <;> rfl

theorem takeThrough_append (pre : List (Page ι)) (rest : List (Page ι)) (h : ∀ q ∈ pre, q.token ≠ []) :
    takeThrough (pre ++ rest) = pre ++ takeThrough rest := by
  induction pre with
  | nil => rfl
  | cons a pre ih =>
    obtain ⟨ha, hpre⟩ := List.forall_mem_cons.mp h
    rw [List.cons_append, takeThrough_cons, if_neg ha, ih hpre, List.cons_append]

theorem takeThrough_prefix (ps : List (Page ι)) : takeThrough ps <+: ps := by
  induction ps with
  | nil => exact List.prefix_rfl
  | cons p ps ih =>
    rw [takeThrough_cons, List.cons_prefix_cons]
    refine ⟨rfl, ?_⟩
    split
    · exact List.nil_prefix
    · exact ih

/-- pages yielded, requests sent, response held at the end -/
theorem pagesGen_eq (st : PState ι ρ) (srv : List (Page ι)) :
    (pagesGen st srv).1 = takeThrough (st.resp :: srv) ∧
    (pagesGen st srv).2.1 = (takeThrough (st.resp :: srv)).dropLast.map (fun p => ⟨p.token, st.req.other⟩) ∧
    some (pagesGen st srv).2.2.resp = (takeThrough (st.resp :: srv)).getLast? := by
  induction srv generalizing st with
  | nil => simp [pagesGen, takeThrough]
  | cons q srv ih =>
    by_cases h : st.resp.token = []
    · simp [pagesGen, takeThrough_cons, h]
    · obtain ⟨h1, h2, h3⟩ := ih ⟨{ st.req with token := st.resp.token }, q⟩
      rw [takeThrough_cons st.resp, if_neg h]
      simp only [pagesGen, if_neg h, h1, h2, h3]
      simp [takeThrough_cons q]

/-- also for the empty history, where no reply is scripted -/
theorem run_eq (r0 : Req ρ) (ps : List (Page ι)) :
    run r0 ps = ((takeThrough ps).flatMap (·.items), r0 :: (takeThrough ps).dropLast.map (fun p => ⟨p.token, r0.other⟩)) := by
  cases ps with
  | nil => rfl
  | cons p0 srv =>
    obtain ⟨h1, h2, _⟩ := pagesGen_eq (ρ := ρ) ⟨r0, p0⟩ srv
    simp only [run, h1, h2]

/-! ### small-step: `fetch`, the only transition that sends a request -/

theorem fetch_eq_some {w w' : World ι ρ} {q : Page ι} (h : fetch w = some (q, w')) :
    w.resp.token ≠ [] ∧ ∃ rest, w.srv = q :: rest ∧
      w' = { w with req := { w.req with token := w.resp.token }, resp := q, srv := rest,
                    sent := w.sent ++ [{ w.req with token := w.resp.token }] } := by
  unfold fetch at h
  split at h
  · cases h
  · split at h
    · cases h
    · cases h; exact ⟨‹_›, _, ‹_›, rfl⟩

theorem fetch_eq_none {w : World ι ρ} (h : fetch w = none) : w.resp.token = [] ∨ w.srv = [] := by
  unfold fetch at h
  split at h
  · exact .inl ‹_›
  · split at h
    · exact .inr ‹_›
    · cases h

/-! ### what one `fetch` preserves, and the generator tables do not affect, every program preserves -/

section Preserve
variable (P : World ι ρ → Prop) (hf : ∀ w q w', fetch w = some (q, w') → P w → P w')
include hf

theorem genNext_preserves (g : GenSt) {w : World ι ρ} (h : P w) : P (genNext g w).2.2 := by
  cases g with
  | fresh => exact h
  | done => exact h
  | running =>
    simp only [genNext]
    cases hfe : fetch w with
    | none => exact h
    | some qw => exact hf _ _ _ hfe h

theorem itemNext_preserves (fuel : Nat) (it : GenSt × List ι) {w : World ι ρ} (h : P w) :
    P (itemNext fuel it w).2.2 := by
  induction fuel generalizing it w with
  | zero => obtain ⟨g, _ | _⟩ := it <;> exact h
  | succ fuel ih =>
    obtain ⟨g, _ | _⟩ := it
    · simp only [itemNext]
      have hn := genNext_preserves P hf g h
      rcases hgn : genNext g w with ⟨_ | p, g', w'⟩ <;> rw [hgn] at hn
      · exact hn
      · exact ih (g', p.items) hn
    · exact h

variable (ht : ∀ w gens its, P w → P { w with gens := gens, its := its })
include ht

theorem step_preserves (o : Op) {w : World ι ρ} (h : P w) : P (step w o).2 := by
  cases o with
  | newPages => exact ht w _ w.its h
  | newIter => exact ht w w.gens _ h
  | attr => exact h
  | nextPage j =>
    simp only [step]
    cases w.gens[j]? with
    | none => exact h
    | some g => exact ht _ _ _ (genNext_preserves P hf g h)
  | nextItem i =>
    simp only [step]
    cases w.its[i]? with
    | none => exact h
    | some it => exact ht _ _ _ (itemNext_preserves P hf _ it h)

theorem exec_preserves (prog : List Op) {w : World ι ρ} (h : P w) : P (exec w prog).2 := by
  induction prog generalizing w with
  | nil => exact h
  | cons o os ih => exact ih (step_preserves P hf ht o h)
end Preserve

/-- `all` = the whole scripted history (first response included).  The pages before the current
one all carried a token, and exactly one request per such page was sent, in order: the caller's
request with `page_token` replaced by that page's token. -/
def Good (r0 : Req ρ) (all : List (Page ι)) (w : World ι ρ) : Prop :=
  ∃ pre, all = pre ++ w.resp :: w.srv ∧ (∀ p ∈ pre, p.token ≠ []) ∧
    w.sent = pre.map (fun p => ⟨p.token, r0.other⟩) ∧ w.req.other = r0.other

theorem Good.fetch {r0 : Req ρ} {all : List (Page ι)} (w : World ι ρ) (q : Page ι) (w' : World ι ρ)
    (h : fetch w = some (q, w')) (hg : Good r0 all w) : Good r0 all w' := by
  obtain ⟨pre, hall, hpre, hsent, hreq⟩ := hg
  obtain ⟨ht, rest, hs, rfl⟩ := fetch_eq_some h
  exact ⟨pre ++ [w.resp], by simp [hall, hs],
    List.forall_mem_append.mpr ⟨hpre, List.forall_mem_singleton.mpr ht⟩, by simp [hsent, hreq], hreq⟩

theorem Good.init (r0 : Req ρ) (p0 : Page ι) (srv : List (Page ι)) : Good r0 (p0 :: srv) (World.init r0 p0 srv) :=
  ⟨[], rfl, nofun, rfl, rfl⟩

theorem Good.exec {r0 : Req ρ} {all : List (Page ι)} {w : World ι ρ} (hg : Good r0 all w) (prog : List Op) :
    Good r0 all (exec w prog).2 :=
  exec_preserves _ Good.fetch (fun _ _ _ h => h) prog hg

/-! ### the pages a generator in state `g` will still yield, read off the big-step loop -/

def pagesFrom : GenSt → World ι ρ → List (Page ι)
  | .fresh, w => (pagesGen ⟨w.req, w.resp⟩ w.srv).1
  | .running, w => (pagesGen ⟨w.req, w.resp⟩ w.srv).1.tail
  | .done, _ => []

/-- the items an item iterator `(g, buf)` will still yield -/
def future (it : GenSt × List ι) (w : World ι ρ) : List ι :=
  it.2 ++ (pagesFrom it.1 w).flatMap (·.items)

theorem pagesFrom_fresh (w : World ι ρ) : pagesFrom .fresh w = w.resp :: pagesFrom .running w := by
  simp only [pagesFrom, (pagesGen_eq _ _).1, takeThrough_cons, List.tail_cons]

theorem pagesFrom_running (w : World ι ρ) :
    pagesFrom .running w = if w.resp.token = [] then [] else takeThrough w.srv := by
  simp only [pagesFrom, (pagesGen_eq _ _).1, takeThrough_cons, List.tail_cons]

theorem length_pagesFrom_le (g : GenSt) (w : World ι ρ) : (pagesFrom g w).length ≤ w.srv.length + 1 := by
  cases g with
  | fresh => rw [pagesFrom, (pagesGen_eq _ _).1]; exact (takeThrough_prefix _).length_le
  | running =>
    rw [pagesFrom_running]
    split
    · exact Nat.zero_le _
    · exact Nat.le_succ_of_le (takeThrough_prefix _).length_le
  | done => exact Nat.zero_le _

/-! ### `next` on a generator or an iterator returns the head of its future and leaves the tail -/

theorem genNext_spec (g : GenSt) (w : World ι ρ) :
    match genNext g w with
    | (none, g', w') => pagesFrom g w = [] ∧ pagesFrom g' w' = []
    | (some p, g', w') => pagesFrom g w = p :: pagesFrom g' w' := by
  cases g with
  | fresh => exact pagesFrom_fresh w
  | done => exact ⟨rfl, rfl⟩
  | running =>
    rw [genNext, pagesFrom_running]
    cases hfe : fetch w with
    | none => rcases fetch_eq_none hfe with h | h <;> simp [h, pagesFrom, takeThrough]
    | some qw =>
      obtain ⟨q, w'⟩ := qw
      obtain ⟨ht, rest, hs, rfl⟩ := fetch_eq_some hfe
      simp [pagesFrom_running, ht, hs, takeThrough_cons]

/-- `fuel` has to exceed the number of pages to come: each page looked at costs one unit, and so does the final `StopIteration` -/
theorem itemNext_spec (fuel : Nat) (g : GenSt) (buf : List ι) (w : World ι ρ) (hf : (pagesFrom g w).length < fuel) :
    (itemNext fuel (g, buf) w).1 = (future (g, buf) w).head? ∧
    future (itemNext fuel (g, buf) w).2.1 (itemNext fuel (g, buf) w).2.2 = (future (g, buf) w).tail := by
  induction fuel generalizing g buf w with
  | zero => cases hf
  | succ fuel ih =>
    cases buf with
    | cons x buf => exact ⟨rfl, rfl⟩
    | nil =>
      have hg := genNext_spec g w
      rw [itemNext]
      generalize genNext g w = r at hg
      obtain ⟨_ | p, g', w'⟩ := r
      · simp only [future, hg.1, hg.2]; exact ⟨rfl, rfl⟩
      · have := ih g' p.items w' (Nat.lt_of_succ_lt_succ (by rwa [hg] at hf))
        simpa only [future, hg, List.nil_append, List.flatMap_cons] using this

theorem itemNext_its (fuel : Nat) (it : GenSt × List ι) (w : World ι ρ) :
    (itemNext fuel it w).2.2.its = w.its :=
  itemNext_preserves (·.its = w.its)
    (fun _ _ _ h e => by obtain ⟨_, _, _, rfl⟩ := fetch_eq_some h; exact e) fuel it rfl

theorem future_congr (it : GenSt × List ι) (w w' : World ι ρ) (h1 : w'.req = w.req) (h2 : w'.resp = w.resp)
    (h3 : w'.srv = w.srv) : future it w' = future it w := by
  obtain ⟨g, buf⟩ := it
  cases g <;> simp [future, pagesFrom, h1, h2, h3]

/-- the fuel `step` hands to `itemNext` suffices (`length_pagesFrom_le`) -/
theorem step_nextItem (w : World ι ρ) (i : Nat) (it : GenSt × List ι) (h : w.its[i]? = some it) :
    (step w (.nextItem i)).1 = ((future it w).head?.map .item).getD .stop ∧
    ∃ it', (step w (.nextItem i)).2.its[i]? = some it' ∧ future it' (step w (.nextItem i)).2 = (future it w).tail := by
  obtain ⟨g, buf⟩ := it
  have hs := itemNext_spec (w.srv.length + 2) g buf w (Nat.lt_succ_of_le (length_pagesFrom_le g w))
  have hits := itemNext_its (w.srv.length + 2) (g, buf) w
  have hi : i < w.its.length := (List.getElem?_eq_some_iff.mp h).1
  simp only [step, h]
  generalize itemNext (w.srv.length + 2) (g, buf) w = r at hs hits
  refine ⟨?_, r.2.1, by simp [hits, hi],
    (future_congr r.2.1 r.2.2 { r.2.2 with its := r.2.2.its.set i r.2.1 } rfl rfl rfl).trans hs.2⟩
  rw [← hs.1]; cases r.1 <;> rfl

end GapicModel.Lemmas.C07Steps
