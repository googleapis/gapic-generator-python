import GapicModel.Model.Retry
/-
Lemmas for C09 (Model/Retry.lean): the duration reader `toFloat?` on EVERY well-formed decimal literal (no bound
on the number of digits) — digit strings and their positional value, the unsigned mantissa, signs, the canonical
zero-padded rendering `digitsOf` and its round trip.
-/
namespace GapicModel.Lemmas.C09
open GapicModel.Model.Retry

def isDigit (c : Char) : Bool := decide ('0' ≤ c ∧ c ≤ '9')

def AllDigits (cs : List Char) : Prop := ∀ c ∈ cs, isDigit c = true

instance (cs : List Char) : Decidable (AllDigits cs) := inferInstanceAs (Decidable (∀ c ∈ cs, isDigit c = true))

/-- positional value of a digit string (Horner); `0` for the empty string -/
def digitsVal (cs : List Char) : Nat := cs.foldl (fun a c => a * 10 + (c.toNat - '0'.toNat)) 0

theorem digitVal_of_isDigit (c : Char) (h : isDigit c = true) : digitVal? c = some (c.toNat - '0'.toNat) :=
  if_pos (of_decide_eq_true h)

/-- the fold inside `natOfDigits?`, from any accumulator: on digits it never fails and is Horner's rule -/
theorem foldl_digits (cs : List Char) (h : AllDigits cs) (a : Nat) :
    cs.foldl (fun acc c => match acc, digitVal? c with
      | some a, some d => some (a * 10 + d)
      | _, _ => none) (some a)
    = some (cs.foldl (fun a c => a * 10 + (c.toNat - '0'.toNat)) a) := by
  induction cs generalizing a with
  | nil => rfl
  | cons c cs ih =>
    simp only [List.foldl_cons, digitVal_of_isDigit c (h c (by simp))]
    exact ih (fun c' h' => h c' (by simp [h'])) _

theorem natOfDigits_eq (cs : List Char) (h : AllDigits cs) (hne : cs ≠ []) :
    natOfDigits? cs = some (digitsVal cs) := by
  unfold natOfDigits?
  rw [if_neg (by simpa using hne)]
  exact foldl_digits cs h 0

theorem natOfDigits_nil : natOfDigits? [] = none := rfl

/-- an empty integer or fraction part counts as 0 -/
theorem natOfDigits_or_zero (cs : List Char) (h : AllDigits cs) :
    (if cs.isEmpty = true then some 0 else natOfDigits? cs) = some (digitsVal cs) := by
  cases cs with
  | nil => rfl
  | cons c cs => exact natOfDigits_eq (c :: cs) h (by simp)

theorem digitsVal_snoc (cs : List Char) (c : Char) :
    digitsVal (cs ++ [c]) = digitsVal cs * 10 + (c.toNat - '0'.toNat) := by
  simp [digitsVal, List.foldl_append]

/-! ### `takeWhile` / `dropWhile` up to a stop character -/

theorem takeWhile_stop (p : Char → Bool) (a b : List Char) (x : Char) (ha : ∀ c ∈ a, p c = true)
    (hx : p x = false) : (a ++ x :: b).takeWhile p = a ∧ (a ++ x :: b).dropWhile p = x :: b := by
  simp [List.takeWhile_append_of_pos ha, List.dropWhile_append_of_pos ha, hx]

theorem takeWhile_all (p : Char → Bool) (a : List Char) (ha : ∀ c ∈ a, p c = true) :
    a.takeWhile p = a ∧ a.dropWhile p = [] := by
  simpa using And.intro (List.takeWhile_append_of_pos (l₂ := []) ha) (List.dropWhile_append_of_pos (l₂ := []) ha)

theorem no_point {ip : List Char} (hi : AllDigits ip) : ∀ c ∈ ip, decide (c ≠ '.') = true :=
  fun c hc => decide_eq_true fun e => absurd (e ▸ hi c hc) (by decide)

theorem parseDecimal_whole (ip : List Char) (hi : AllDigits ip) (hne : ip ≠ []) :
    parseDecimal? ip = some (digitsVal ip : Rat) := by
  have h := takeWhile_all _ ip (no_point hi)
  simp only [parseDecimal?, h.1, h.2, natOfDigits_eq ip hi hne]
  rfl

theorem parseDecimal_frac (ip fp : List Char) (hi : AllDigits ip) (hf : AllDigits fp)
    (hne : ip ≠ [] ∨ fp ≠ []) :
    parseDecimal? (ip ++ '.' :: fp) = some ((digitsVal ip : Rat) + (digitsVal fp : Rat) / pow10 fp.length) := by
  have h := takeWhile_stop _ ip fp '.' (no_point hi) (by decide)
  have hcond : ¬ (ip.isEmpty = true ∧ fp.isEmpty = true) :=
    fun ⟨a, b⟩ => hne.elim (· (List.isEmpty_iff.1 a)) (· (List.isEmpty_iff.1 b))
  simp only [parseDecimal?, h.1, h.2, if_neg hcond, natOfDigits_or_zero ip hi, natOfDigits_or_zero fp hf]

theorem applySign_false (r : Rat) : applySign false r = r := rfl
theorem applySign_true (r : Rat) : applySign true r = -r := rfl
theorem splitSign_minus (r : List Char) : splitSign ('-' :: r) = (true, r) := rfl
theorem splitSign_plus (r : List Char) : splitSign ('+' :: r) = (false, r) := rfl

/-- digits and the decimal point: the characters of an unsigned mantissa -/
def Plain (cs : List Char) : Prop := ∀ c ∈ cs, isDigit c = true ∨ c = '.'

theorem not_mem_plain {cs : List Char} (h : Plain cs) {x : Char} (hx : isDigit x = false) (hx' : x ≠ '.') : x ∉ cs :=
  fun hm => (h x hm).elim (fun hd => by rw [hd] at hx; cases hx) hx'

theorem plain_of_digits (ip : List Char) (hi : AllDigits ip) : Plain ip := fun c hc => Or.inl (hi c hc)

theorem plain_frac (ip fp : List Char) (hi : AllDigits ip) (hf : AllDigits fp) : Plain (ip ++ '.' :: fp) :=
  List.forall_mem_append.2 ⟨plain_of_digits ip hi, List.forall_mem_cons.2 ⟨.inr rfl, plain_of_digits fp hf⟩⟩

theorem splitSign_plain (cs : List Char) (h : Plain cs) : splitSign cs = (false, cs) :=
  splitSign.eq_3 cs (fun _ e => not_mem_plain h (x := '-') (by decide) (by decide) (e ▸ List.mem_cons_self))
    (fun _ e => not_mem_plain h (x := '+') (by decide) (by decide) (e ▸ List.mem_cons_self))

theorem notExp_plain (cs : List Char) (h : Plain cs) : ∀ c ∈ cs, notExp c = true := fun c hc => by
  have he : c ≠ 'e' := fun e => not_mem_plain h (x := 'e') (by decide) (by decide) (e ▸ hc)
  have hE : c ≠ 'E' := fun e => not_mem_plain h (x := 'E') (by decide) (by decide) (e ▸ hc)
  simp [notExp, he, hE]

theorem toFloat_snoc (body : List Char) (c : Char) :
    toFloat? (body ++ [c]) =
      if c = 'n' then (parseInt? body).map (fun n => n / pow10 9) else parseFloat? body := by
  simp [toFloat?]

/-- a literal without exponent: `float` reads the mantissa and applies the sign, which is whatever `splitSign`
found in front of it (nothing in front of a digit or a point: `splitSign_plain`; `'-'` and `'+'` by `rfl`) -/
theorem parseFloat_mantissa {s body : List Char} {neg : Bool} (hs : splitSign s = (neg, body))
    (h : ∀ c ∈ body, notExp c = true) : parseFloat? s = (parseDecimal? body).map (applySign neg) := by
  have ht := takeWhile_all notExp body h
  simp only [parseFloat?, hs, ht.1, ht.2]

theorem toFloat_mantissa {s body : List Char} {neg : Bool} (hs : splitSign s = (neg, body)) (h : Plain body)
    (u : Char) (hu : u ≠ 'n') : toFloat? (s ++ [u]) = (parseDecimal? body).map (applySign neg) := by
  rw [toFloat_snoc, if_neg hu, parseFloat_mantissa hs (notExp_plain body h)]

theorem parseInt_signed {s ds : List Char} {neg : Bool} (hs : splitSign s = (neg, ds)) (hd : AllDigits ds)
    (hne : ds ≠ []) : parseInt? s = some (applySign neg (digitsVal ds : Rat)) := by
  simp only [parseInt?, hs, natOfDigits_eq ds hd hne]
  rfl

theorem parseInt_minus (ds : List Char) (hd : AllDigits ds) (hne : ds ≠ []) :
    parseInt? ('-' :: ds) = some (-(digitsVal ds : Rat)) :=
  parseInt_signed rfl hd hne

/-! ### canonical rendering: `w` digits, zero padded -/

def digitChar (i : Fin 10) : Char := Char.ofNat (48 + i.val)

theorem digitChar_spec : ∀ i : Fin 10, isDigit (digitChar i) = true ∧ (digitChar i).toNat - '0'.toNat = i.val := by
  decide +kernel

/-- the last `w` decimal digits of `n`, most significant first, zero padded -/
def digitsOf : Nat → Nat → List Char
  | 0, _ => []
  | w + 1, n => digitsOf w (n / 10) ++ [digitChar ⟨n % 10, Nat.mod_lt n (by decide)⟩]

theorem digitsOf_length (w n : Nat) : (digitsOf w n).length = w := by
  induction w generalizing n with
  | zero => rfl
  | succ w ih => simp [digitsOf, ih]

theorem digitsOf_allDigits (w n : Nat) : AllDigits (digitsOf w n) := by
  induction w generalizing n with
  | zero => intro c hc; simp [digitsOf] at hc
  | succ w ih =>
    intro c hc
    simp only [digitsOf, List.mem_append, List.mem_singleton] at hc
    rcases hc with hc | hc
    · exact ih _ c hc
    · subst hc; exact (digitChar_spec _).1

theorem digitsOf_ne_nil (w n : Nat) (hw : 0 < w) : digitsOf w n ≠ [] :=
  List.ne_nil_of_length_pos (by rw [digitsOf_length]; exact hw)

theorem digitsVal_digitsOf (w n : Nat) : digitsVal (digitsOf w n) = n % 10 ^ w := by
  induction w generalizing n with
  | zero => simp [digitsOf, digitsVal, Nat.mod_one]
  | succ w ih =>
    simp only [digitsOf, digitsVal_snoc, ih, (digitChar_spec _).2]
    rw [Nat.pow_succ, Nat.mul_comm (10 ^ w) 10, Nat.mod_mul]
    omega

theorem natCast_split (k s n : Nat) : ((s * 10 ^ k + n : Nat) : Rat) / pow10 k = (s : Rat) + (n : Rat) / pow10 k := by
  unfold pow10
  have h : ((10 ^ k : Nat) : Rat) ≠ 0 :=
    fun e => Nat.ne_of_gt (Nat.pow_pos (by decide)) (Rat.natCast_eq_zero_iff.1 e)
  simp only [Rat.natCast_add, Rat.natCast_mul, Rat.div_def, Rat.add_mul, Rat.mul_assoc, Rat.mul_inv_cancel _ h, Rat.mul_one]

end GapicModel.Lemmas.C09
