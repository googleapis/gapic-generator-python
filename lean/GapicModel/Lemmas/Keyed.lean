/-
Lists whose elements have pairwise different keys (names of services and RPCs, region tags, addresses of method wrappers):
looking up by the key of a member finds that member and nothing else, and a dict filled by assignments over such keys is the
list of what was assigned, in order (`foldl_eq_append`).
-/
namespace GapicModel.Keyed

theorem nodup_of_map {α β} (f : α → β) {l : List α} (h : (l.map f).Nodup) : l.Nodup :=
  List.Pairwise.of_map f (fun _ _ hab e => hab (e ▸ rfl)) h

theorem inj_of_nodup_map {α β} (f : α → β) {l : List α} (h : (l.map f).Nodup) : ∀ a ∈ l, ∀ b ∈ l, f a = f b → a = b :=
  have hp := (List.pairwise_map.mp h).imp (S := fun a b => f a = f b → a = b) fun hne e => absurd e hne
  List.Pairwise.forall_of_forall_of_flip (fun _ _ _ => rfl) hp (hp.imp fun h e => (h e.symm).symm)

theorem flatMap_eq_of_key {α β γ} (key : α → γ) (G : α → List β) (x : α) :
    ∀ (l : List α), (l.map key).Nodup → x ∈ l → (∀ y, key y ≠ key x → G y = []) → l.flatMap G = G x := by
  intro l
  induction l with
  | nil => intro _ h; cases h
  | cons a l ih =>
    intro hnd hx hG
    rw [List.map_cons, List.nodup_cons] at hnd
    rw [List.flatMap_cons]
    rcases List.mem_cons.mp hx with rfl | hx
    · rw [List.flatMap_eq_nil_iff.mpr fun y hy => hG y fun e => hnd.1 (e ▸ List.mem_map_of_mem hy), List.append_nil]
    · rw [hG a fun e => hnd.1 (e ▸ List.mem_map_of_mem hx), ih hnd.2 hx hG, List.nil_append]

theorem filter_eq_of_key {α γ} (key : α → γ) (q : α → Bool) (x : α) (l : List α) (hnd : (l.map key).Nodup)
    (hx : x ∈ l) (hq : ∀ y, q y = true ↔ key y = key x) : l.filter q = [x] := by
  rw [← List.flatMap_singleton' l, List.filter_flatMap, flatMap_eq_of_key key _ x l hnd hx]
  · simp [(hq x).mpr rfl]
  · intro y hne; simp [mt (hq y).mp hne]

theorem find?_eq_of_key {α γ} (key : α → γ) (q : α → Bool) (x : α) (l : List α) (hnd : (l.map key).Nodup)
    (hx : x ∈ l) (hq : ∀ y, q y = true ↔ key y = key x) : l.find? q = some x := by
  rw [← List.head?_filter, filter_eq_of_key key q x l hnd hx hq]; rfl

theorem find?_eq_some_of_unique {α} {p : α → Bool} {r : α} {l : List α} (hr : r ∈ l) (hp : p r = true)
    (hu : ∀ a ∈ l, p a = true → a = r) : l.find? p = some r := by
  cases h : l.find? p with
  | none => exact absurd hp (by simpa using List.find?_eq_none.mp h r hr)
  | some a => rw [hu a (List.mem_of_find?_eq_some h) (List.find?_some h)]

theorem lookup_of_nodup_keys {α β} [BEq α] [LawfulBEq α] : ∀ (kv : List (α × β)), (kv.map (·.1)).Nodup →
    ∀ p ∈ kv, kv.lookup p.1 = some p.2
  | (k, b) :: kv, hnd, p, hp => by
    rw [List.map_cons, List.nodup_cons] at hnd
    rcases List.mem_cons.mp hp with rfl | hp
    · exact List.lookup_cons_self
    · rw [List.lookup_cons, beq_false_of_ne fun e => hnd.1 (List.mem_map.mpr ⟨p, hp, e⟩)]
      exact lookup_of_nodup_keys kv hnd.2 p hp

theorem nodup_map_iff_filter {α β : Type} [BEq β] [LawfulBEq β] (f : α → β) (l : List α) :
    (l.map f).Nodup ↔ ∀ b, (l.filter (f · == b)).length ≤ 1 := by
  simp only [List.nodup_iff_count, List.count_eq_countP, List.countP_eq_length_filter, List.filter_map,
    List.length_map]
  rfl

theorem nodup_flatMap_mk {α β γ} {f : α → γ} {G : α → List β} {l : List α} (hl : (l.map f).Nodup)
    (hG : ∀ x ∈ l, (G x).Nodup) : (l.flatMap fun x => (G x).map (Prod.mk (f x))).Nodup := by
  rw [List.Nodup, List.pairwise_flatMap]
  refine ⟨fun x hx => List.pairwise_map.mpr ((hG x hx).imp fun hne e => hne (Prod.mk.inj e).2), ?_⟩
  refine (List.pairwise_map.mp hl).imp fun hne a ha b hb e => ?_
  obtain ⟨_, _, rfl⟩ := List.mem_map.mp ha
  obtain ⟨_, _, rfl⟩ := List.mem_map.mp hb
  exact hne (Prod.mk.inj e).1

theorem nodup_map_of_key {α β γ} {key : α → γ} {g : α → β} {l : List α} (h : (l.map key).Nodup)
    (hg : ∀ x ∈ l, ∀ y ∈ l, g x = g y → key x = key y) : (l.map g).Nodup :=
  List.pairwise_map.mpr ((List.pairwise_map.mp h).imp_of_mem fun hx hy hne e => hne (hg _ hx _ hy e))

/-- a loop of dict assignments over keys that are new and pairwise different appends one entry per round (`hstep`: what the
assignment does when its key is not there yet) -/
theorem foldl_eq_append {α β γ} (key : α → γ) (step : List α → β → List α) (mk : β → α)
    (hstep : ∀ d b, key (mk b) ∉ d.map key → step d b = d ++ [mk b]) (bs : List β) (d : List α)
    (hnd : (d.map key ++ bs.map fun b => key (mk b)).Nodup) : bs.foldl step d = d ++ bs.map mk := by
  induction bs generalizing d with
  | nil => exact (List.append_nil d).symm
  | cons b bs ih =>
    rw [List.foldl_cons, hstep d b fun h => (List.nodup_append.mp hnd).2.2 _ h _ List.mem_cons_self rfl,
      ih _ (by simpa using hnd), List.append_assoc]
    rfl

end GapicModel.Keyed
