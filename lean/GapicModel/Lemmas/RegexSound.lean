import GapicModel.Lemmas.Regex
/-
Soundness of the CPS matcher w.r.t. a relational ("big-step") semantics `Run`.
`m t r s k = some s''`  ⇒  the match of `r` took `s` to some `s'` with `Run t r s s'`, and `k s' = some s''`.
Then what applications read off a run without unfolding the matcher again: what it consumed and captured
(`Run.consumed`, `Run.group_cap`, `Run.lits`, `Run.star_consumed`).
-/
namespace GapicModel.Regex

def St.push (s : St) (d : Char) (r : List Char) : St := { s with pre := d :: s.pre, rest := r }

/-- `Run t r s s'`: some match of `r` takes the state `s` to `s'`, whatever its priority among the matches from `s`.
An iteration of a `star` has to consume, as in `starLoop`.  Look-around is not modelled: `look` lets every assertion
pass, so for a pattern with look-around `Run` is only an upper bound of what the matcher does (`m_sound` holds, the
converse needs `noLook`, Lemmas/RegexComplete). -/
inductive Run (t : ClassTables) : Re → St → St → Prop where
  | eps (s) : Run t .eps s s
  | chr (c s r) : s.rest = c :: r → Run t (.chr c) s (s.push c r)
  | any (s d r) : s.rest = d :: r → d ≠ '\n' → Run t .any s (s.push d r)
  | cls (neg items s d r) : s.rest = d :: r → clsTest t neg items d = true → Run t (.cls neg items) s (s.push d r)
  | seq (a b s s1 s2) : Run t a s s1 → Run t b s1 s2 → Run t (.seq a b) s s2
  | altL (a b s s1) : Run t a s s1 → Run t (.alt a b) s s1
  | altR (a b s s1) : Run t b s s1 → Run t (.alt a b) s s1
  | star0 (r g s) : Run t (.star r g) s s
  | starS (r g s s1 s2) : Run t r s s1 → s1.rest.length < s.rest.length → Run t (.star r g) s1 s2 → Run t (.star r g) s s2
  | group (i r s s1) : Run t r s s1 → Run t (.group i r) s { s1 with caps := (i, capture s s1) :: s1.caps }
  | bol (s) : s.pre = [] → Run t .bol s s
  | eol (s) : (s.rest = [] ∨ s.rest = ['\n']) → Run t .eol s s
  | look (a n r s) : Run t (.look a n r) s s

theorem Run.seq_inv {t a b s s'} (h : Run t (.seq a b) s s') : ∃ s1, Run t a s s1 ∧ Run t b s1 s' := by
  cases h with
  | seq _ _ _ s1 _ h1 h2 => exact ⟨s1, h1, h2⟩

theorem Run.alt_inv {t a b s s'} (h : Run t (.alt a b) s s') : Run t a s s' ∨ Run t b s s' := by
  cases h with
  | altL _ _ _ _ h => exact .inl h
  | altR _ _ _ _ h => exact .inr h

theorem Run.group_inv {t i r s s'} (h : Run t (.group i r) s s') :
    ∃ s1, Run t r s s1 ∧ s' = { s1 with caps := (i, capture s s1) :: s1.caps } := by
  cases h with
  | group _ _ _ s1 h1 => exact ⟨s1, h1, rfl⟩

theorem Run.cls_inv {t neg items s s'} (h : Run t (.cls neg items) s s') :
    ∃ d r, s.rest = d :: r ∧ clsTest t neg items d = true ∧ s' = s.push d r := by
  cases h with
  | cls _ _ _ d r hs ht => exact ⟨d, r, hs, ht, rfl⟩

/-- a run of `chr c` consumed `c` (with `Run.chr_prefix`, the same in front of a rest, the steps of `Run.lits`) -/
theorem Run.chr_last {t c s s'} (h : Run t (.chr c) s s') : s.rest = c :: s'.rest := by
  cases h with
  | chr _ _ r hs => exact hs

theorem Run.chr_prefix {t c b s s'} (h : Run t (.seq (.chr c) b) s s') :
    ∃ s1, Run t b s1 s' ∧ s.rest = c :: s1.rest :=
  let ⟨s1, h1, h2⟩ := h.seq_inv
  ⟨s1, h2, h1.chr_last⟩

/-- the one-character atoms of `m` (`chr`, `any`, `cls`) -/
theorem atom_eq_some {p : Char → Prop} [DecidablePred p] {s : St} {k : K} {s'' : St}
    (h : (match s.rest with
      | d :: r => if p d then k { s with pre := d :: s.pre, rest := r } else none
      | [] => none) = some s'') :
    ∃ d r, s.rest = d :: r ∧ p d ∧ k (s.push d r) = some s'' := by
  split at h
  · exact ⟨_, _, ‹_›, Option.ite_none_right_eq_some.mp h⟩
  · cases h

theorem starLoop_sound (t : ClassTables) (r : Re) (g : Bool)
    (ih : ∀ (s : St) (k : K) (s'' : St), m t r s k = some s'' → ∃ s', Run t r s s' ∧ k s' = some s'') :
    ∀ (n : Nat) (s : St) (k : K) (s'' : St), starLoop (m t r) g k n s = some s'' →
      ∃ s', Run t (.star r g) s s' ∧ k s' = some s''
  | 0, s, k, s'', h => ⟨s, .star0 r g s, h⟩
  | n + 1, s, k, s'', h => by
    have stop : k s = some s'' → ∃ s', Run t (.star r g) s s' ∧ k s' = some s'' := fun hk => ⟨s, .star0 r g s, hk⟩
    have step : m t r s (fun s' => if s'.rest.length < s.rest.length then starLoop (m t r) g k n s' else none) = some s'' →
        ∃ s', Run t (.star r g) s s' ∧ k s' = some s'' := fun hm =>
      let ⟨s1, hr1, hk1⟩ := ih s _ s'' hm
      let ⟨hlt, hk1⟩ := Option.ite_none_right_eq_some.mp hk1
      let ⟨s2, hr2, hk2⟩ := starLoop_sound t r g ih n s1 k s'' hk1
      ⟨s2, .starS r g s s1 s2 hr1 hlt hr2, hk2⟩
    rw [starLoop, Option.orElse_eq_or, Option.orElse_eq_or] at h
    cases g with
    | true => exact (Option.or_eq_some_iff.mp h).elim step fun h => stop h.2
    | false => exact (Option.or_eq_some_iff.mp h).elim stop fun h => step h.2

theorem m_sound (t : ClassTables) : ∀ (r : Re) (s : St) (k : K) (s'' : St),
    m t r s k = some s'' → ∃ s', Run t r s s' ∧ k s' = some s'' := by
  intro r
  induction r with
  | eps => exact fun s k s'' h => ⟨s, .eps s, h⟩
  | chr c =>
    intro s k s'' h
    obtain ⟨d, r, hs, rfl, hk⟩ := atom_eq_some (p := (c = ·)) h
    exact ⟨_, .chr c s r hs, hk⟩
  | any =>
    intro s k s'' h
    obtain ⟨d, r, hs, hd, hk⟩ := atom_eq_some (p := (· ≠ '\n')) h
    exact ⟨_, .any s d r hs hd, hk⟩
  | cls neg items =>
    intro s k s'' h
    obtain ⟨d, r, hs, hd, hk⟩ := atom_eq_some (p := (clsTest t neg items · = true)) h
    exact ⟨_, .cls neg items s d r hs hd, hk⟩
  | seq a b iha ihb =>
    intro s k s'' h
    obtain ⟨s1, hr1, hk1⟩ := iha s _ s'' h
    obtain ⟨s2, hr2, hk2⟩ := ihb s1 k s'' hk1
    exact ⟨s2, .seq a b s s1 s2 hr1 hr2, hk2⟩
  | alt a b iha ihb =>
    intro s k s'' h
    rw [m_alt_eq, Option.orElse_eq_or, Option.or_eq_some_iff] at h
    rcases h with ha | ⟨-, hb⟩
    · exact (iha s k s'' ha).imp fun s1 h1 => ⟨.altL a b s s1 h1.1, h1.2⟩
    · exact (ihb s k s'' hb).imp fun s1 h1 => ⟨.altR a b s s1 h1.1, h1.2⟩
  | star r g ih => exact fun s k s'' h => starLoop_sound t r g ih s.rest.length s k s'' h
  | group i r ih =>
    intro s k s'' h
    obtain ⟨s1, hr1, hk1⟩ := ih s _ s'' h
    exact ⟨_, .group i r s s1 hr1, hk1⟩
  | bol =>
    intro s k s'' h
    obtain ⟨hp, hk⟩ := Option.ite_none_right_eq_some.mp h
    exact ⟨s, .bol s hp, hk⟩
  | eol =>
    intro s k s'' h
    obtain ⟨hp, hk⟩ := Option.ite_none_right_eq_some.mp h
    exact ⟨s, .eol s hp, hk⟩
  | look a n r _ =>
    intro s k s'' h
    -- both look-around cases are `if hit != n then k s else none`
    cases a <;> exact ⟨s, .look _ n r s, (Option.ite_none_right_eq_some.mp h).2⟩

theorem matchAt_sound {t : ClassTables} {r : Re} {pre rest : List Char} {st : St}
    (h : matchAt t r pre rest = some st) : Run t r ⟨pre, rest, []⟩ st := by
  obtain ⟨s', hr, hk⟩ := m_sound t r ⟨pre, rest, []⟩ some st h
  cases hk
  exact hr

theorem Run.consumed {t : ClassTables} {r : Re} {s s' : St} (h : Run t r s s') :
    ∃ w, s.rest = w ++ s'.rest ∧ s'.pre = w.reverse ++ s.pre := by
  induction h with
  | chr c s r hs => exact ⟨[c], hs, rfl⟩
  | any s d r hs _ => exact ⟨[d], hs, rfl⟩
  | cls neg items s d r hs _ => exact ⟨[d], hs, rfl⟩
  | seq _ _ _ _ _ _ _ ih1 ih2 | starS _ _ _ _ _ _ _ _ ih1 ih2 =>
    obtain ⟨w1, h1, p1⟩ := ih1
    obtain ⟨w2, h2, p2⟩ := ih2
    exact ⟨w1 ++ w2, by rw [h1, h2, List.append_assoc], by rw [p2, p1, List.reverse_append, List.append_assoc]⟩
  | altL _ _ _ _ _ ih | altR _ _ _ _ _ ih | group _ _ _ _ _ ih => exact ih
  -- the other patterns consume nothing
  | _ => exact ⟨[], rfl, rfl⟩

/-- the text of a capture is exactly what the group's body consumed -/
theorem capture_eq {s s' : St} {w : List Char} (hp : s'.pre = w.reverse ++ s.pre) : capture s s' = w := by
  cases s; cases s'; cases hp
  exact capture_app ..

theorem Run.group_cap {t i r s s'} (h : Run t (.group i r) s s') :
    ∃ s1 w, Run t r s s1 ∧ s.rest = w ++ s1.rest ∧ s' = { s1 with caps := (i, w) :: s1.caps } := by
  obtain ⟨s1, h1, rfl⟩ := h.group_inv
  obtain ⟨w, e, p⟩ := h1.consumed
  exact ⟨s1, w, h1, e, by rw [capture_eq p]⟩

/-- a literal, as the translator emits it -/
theorem Run.lits {t} : ∀ (cs : List Char) {s s' : St}, Run t (seqR (cs.map .chr)) s s' → s.rest = cs ++ s'.rest
  | [], _, _, h => by cases h; rfl
  | [c], _, _, h => h.chr_last
  | c :: d :: cs, _, _, h => by
    obtain ⟨s1, h1, e⟩ := h.chr_prefix
    rw [e, Run.lits (d :: cs) h1]; rfl

/-- what the iterations of a `star` consumed, from what one iteration of its body consumes -/
theorem Run.star_consumed {t} {r : Re} {g : Bool} {P : List Char → Prop} (h0 : P [])
    (hS : ∀ {a b : St} {v : List Char}, Run t r a b → P v → ∃ u, a.rest = u ++ b.rest ∧ P (u ++ v))
    {s s' : St} (h : Run t (.star r g) s s') : ∃ w, s.rest = w ++ s'.rest ∧ P w := by
  generalize hr : Re.star r g = r' at h
  induction h with
  | star0 => exact ⟨[], rfl, h0⟩
  | starS r0 g0 s s1 s2 h1 _ _ _ ih2 =>
    cases hr
    obtain ⟨v, e2, pv⟩ := ih2 rfl
    obtain ⟨u, e1, pu⟩ := hS h1 pv
    exact ⟨u ++ v, by rw [e1, e2, List.append_assoc], pu⟩
  | _ => cases hr

end GapicModel.Regex
