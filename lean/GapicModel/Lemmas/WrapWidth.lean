import GapicModel.Lemmas.TextwrapWords
/-
C20 — lines and their width: a line is fine (`LineOK`) when it fits or is one unbreakable word behind its indent; the lines
(`str.split("\n")`) of joined and right-stripped texts; every line `textwrap.fill` produces is fine.
-/
namespace GapicModel.Lemmas.WrapWidth
open GapicModel.Model.Wrap GapicModel.Lemmas.Words GapicModel.Lemmas.WrapWords
open GapicModel.Lemmas.TextwrapWords
open GapicModel.Lemmas.Textwrap (lenSum length_flatten_eq_lenSum Fits Cut)

/-- a line that consists of one unbreakable word (no ASCII whitespace) behind an indent of spaces -/
def OneChunk (l : Str) : Prop :=
  ∃ ind w, l = ind ++ w ∧ (∀ c ∈ ind, c = ' ') ∧ (∀ c ∈ w, isAsciiWs c = false)

/-- the line fits `limit` columns, or is a single unbreakable word -/
def LineOK (limit : Nat) (l : Str) : Prop := l.length ≤ limit ∨ OneChunk l

theorem LineOK.mono {a b : Nat} {l : Str} (h : LineOK a l) (hab : a ≤ b) : LineOK b l :=
  h.imp_left (Nat.le_trans · hab)

theorem LineOK.nil (n : Nat) : LineOK n [] := Or.inl (Nat.zero_le _)

theorem LineOK.prefix_of {n : Nat} {a b : Str} (h : LineOK n (a ++ b)) : LineOK n a := by
  rcases h with h | ⟨ind, w, hiw, hind, hw⟩
  · left
    rw [List.length_append] at h; omega
  · right
    -- the prefix ends inside the indent or inside the word
    rcases List.append_eq_append_iff.mp hiw with ⟨a', rfl, -⟩ | ⟨w', rfl, rfl⟩
    · exact ⟨a, [], by simp, fun c hc => hind c (List.mem_append_left _ hc), fun _ hc => nomatch hc⟩
    · exact ⟨ind, w', rfl, hind, fun c hc => hw c (List.mem_append_left _ hc)⟩

/-! ### lines of a text (`str.split("\n")`) -/

abbrev Lines (s : Str) : List Str := splitOn '\n' s

theorem lines_nl_cons (s : Str) : Lines ('\n' :: s) = [] :: Lines s := by
  simp [Lines, splitOn_eq, List.splitOn_cons_eq_if_modifyHead]

theorem lines_append_nl (a b : Str) : Lines (a ++ '\n' :: b) = Lines a ++ Lines b := by
  simp only [Lines, splitOn_eq]; exact List.splitOn_append_cons_self a b

theorem lines_no_nl {a : Str} (h : '\n' ∉ a) : Lines a = [a] := by
  rw [Lines, splitOn_eq, List.splitOn_eq_singleton h]

theorem lines_join_mem (xs : List Str) (l : Str) (h : l ∈ Lines (joinWith ['\n'] xs)) :
    l = [] ∨ ∃ x ∈ xs, l ∈ Lines x := by
  simp only [Lines, splitOn_eq, joinWith_eq] at h ⊢
  cases xs with
  | nil => exact .inl (by simpa using h)
  | cons a r => exact .inr (List.mem_flatMap.mp (Split.splitOn_intercalate_flatMap '\n' (List.cons_ne_nil a r) ▸ h))

theorem lines_replicate_nl (k : Nat) : ∀ l ∈ Lines (List.replicate k '\n'), l = [] := by
  induction k with
  | zero => intro l h; simpa [Lines, splitOn] using h
  | succ k ih =>
    intro l h
    rw [List.replicate_succ, lines_nl_cons] at h
    exact (List.mem_cons.mp h).elim id (ih l)

theorem lines_rstripChar (s : Str) :
    (∀ l ∈ Lines (rstripChar '\n' s), l ∈ Lines s) ∧ (Lines (rstripChar '\n' s)).head? = (Lines s).head? := by
  obtain ⟨W, hs, hW, -⟩ := MapRuns.rstripW_split (ws := (· == '\n')) s
  change s = rstripChar '\n' s ++ W at hs
  generalize rstripChar '\n' s = r at hs
  subst hs
  cases W with
  | nil => simp
  | cons x W =>
    obtain rfl : x = '\n' := eq_of_beq (hW x List.mem_cons_self)
    simp only [Lines, splitOn_eq]
    exact ⟨fun l hl => List.splitOn_append_cons_self (a := '\n') r W ▸ List.mem_append_left _ hl,
      (Split.head?_splitOn_append_sep '\n' r W).symm⟩

theorem mungeChar_ne_nl (c : Char) : mungeChar c ≠ '\n' := by
  rcases mungeChar_cases c with ⟨-, e⟩ | ⟨h, e⟩ <;> rw [e]
  · decide
  · rintro rfl; cases h

theorem munge_no_nl (s : Str) : '\n' ∉ munge s := by
  intro h
  obtain ⟨c, _, hc⟩ := List.mem_map.mp h
  exact mungeChar_ne_nl c hc

theorem rendered_ok (l : List Str) (hmem : ∀ c ∈ l, ∃ k, Hom k c) (hne : l ≠ []) (width n : Nat)
    (hfit : Fits T (width - n) l) : LineOK width (List.replicate n ' ' ++ l.flatten) := by
  rcases hfit with h | ⟨c, rfl, hb⟩
  · left
    -- a non-empty line of non-empty chunks has positive length, so `width - n` did not truncate
    have hpos : 0 < lenSum l := by
      cases l with
      | nil => exact absurd rfl hne
      | cons a l' =>
        obtain ⟨k', hk'⟩ := hmem a (by simp)
        have : 0 < a.length := List.length_pos_iff.mpr hk'.1
        simp [lenSum]; omega
    rw [List.length_append, List.length_replicate, length_flatten_eq_lenSum]; omega
  · right
    obtain ⟨k', hk'⟩ := hmem c (by simp)
    cases k' with
    | true => rw [Hom.blank_of_true hk'] at hb; cases hb
    | false => exact ⟨List.replicate n ' ', c, by simp, fun x hx => List.eq_of_mem_replicate hx, hk'.2⟩

theorem Cut.render {ok : Bool → List Str → Prop} {first cs ls} (h : Cut T ok first cs ls) (ii si x : Str)
    (hx : x ∈ renderLines ii si ls) : ∃ l ∈ ls, x = ii ++ l.flatten ∧ ok first l ∨ x = si ++ l.flatten ∧ ok false l := by
  cases h with
  | nil => cases hx
  | cons _ _ hok _ _ hr =>
    simp only [renderLines, List.mem_cons, List.mem_map] at hx
    rcases hx with rfl | ⟨l1, hl1, rfl⟩
    · exact ⟨_, List.mem_cons_self, Or.inl ⟨rfl, hok⟩⟩
    · exact ⟨l1, List.mem_cons_of_mem _ hl1, Or.inr ⟨rfl, hr.ok_of_false rfl l1 hl1⟩⟩

theorem fill_lines_ok (token : Str) (width : Int) (n m : Nat) (out : Str)
    (h : textwrapFill T token width (List.replicate n ' ') (List.replicate m ' ') = some out) :
    ∀ l ∈ Lines out, LineOK width.toNat l := by
  obtain ⟨_, hls, rfl⟩ := Option.map_eq_some_iff.mp h
  obtain ⟨k, cs, ls, halt, hflat, rfl, hcut⟩ := textwrapWrap_some hls
  intro l hl
  rcases lines_join_mem _ l hl with rfl | ⟨x, hx, hlx⟩
  · exact LineOK.nil _
  · -- `x` is a rendered line; it has no line break, so it is its own only line
    obtain ⟨l0, hl0, hx⟩ := Cut.render hcut _ _ x hx
    obtain ⟨hne, p, q, hpq⟩ := hcut.mem l0 hl0
    have hmem : ∀ c ∈ l0, ∃ k', Hom k' c := fun c hc => AltFrom.hom halt c (by rw [hpq]; simp [hc])
    have hnl : ∀ j, '\n' ∉ List.replicate j ' ' ++ l0.flatten := by
      intro j hm
      rcases List.mem_append.mp hm with hm | hm
      · exact absurd (List.eq_of_mem_replicate hm) (by decide)
      · exact munge_no_nl token (by rw [← hflat, hpq]; simp [hm])
    rcases hx with ⟨rfl, hok⟩ | ⟨rfl, hok⟩ <;> rw [lines_no_nl (hnl _), List.mem_singleton] at hlx <;> subst hlx
    · exact rendered_ok l0 hmem hne _ n (by simpa using hok)
    · exact rendered_ok l0 hmem hne _ m (by simpa using hok)

end GapicModel.Lemmas.WrapWidth
