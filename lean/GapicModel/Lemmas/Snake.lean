import GapicModel.Lemmas.Regex
import GapicModel.Lemmas.Tables
import GapicModel.Model.Grpc
import GapicModel.Model.Names
/-
`to_snake_case` (`Model.Grpc.snake`, `Model.Names.toSnakeCase`, `Pinned.Funcs.to_snake_case`) without the regular-expression
engine.  Each of its four `re.sub` calls uses a pattern that matches exactly one character — captured as group 1 — under a
condition on the character before it and on the text after it, and puts an underscore in front of it.  Such a substitution
is one pass over the text (`ins`); `snakeSubs_eq` says so for every input.  What the properties use follows from the passes:
the function only ever inserts underscores (so a name suffixed because its lower-case form is in a table of underscore-free
words is snake-cased to a word outside the table), and it leaves a text without capital letters alone.  At the end: the
pinned tables as explicit character lists, and `Model.Names`, which holds the same functions over `String`.
-/
namespace GapicModel.Lemmas.Snake
open GapicModel.Regex

/-- one pass from left to right: `u` goes in front of every character `c` whose context — the text before it (reversed),
`c` itself, the text after it — satisfies `P` -/
def ins (P : List Char → Char → List Char → Bool) (u : List Char) : List Char → List Char → List Char
  | _, [] => []
  | pre, c :: cs => (if P pre c cs then u else []) ++ c :: ins P u (c :: pre) cs

/-- `re.sub(r, u + r'\1', s)` for a pattern that matches exactly one character, captured as group 1, under a condition
`P` on its context -/
theorem pySub_eq_ins (t : ClassTables) (r : Re) (P : List Char → Char → List Char → Bool) (u : List Char)
    (h : ∀ pre c cs, matchAt t r pre (c :: cs) = if P pre c cs then some ⟨c :: pre, cs, [(1, [c])]⟩ else none)
    (s : List Char) : pySub t r [.lit u, .grp 1] s = ins P u [] s := by
  refine subLoop_induction (motive := fun pre s out => out = ins P u pre s) (fun _ => rfl) ?_ ?_ _ [] s
    (Nat.lt_succ_self _)
  · intro pre c cs out hno ih
    have hP : P pre c cs = false := by
      cases hp : P pre c cs with
      | false => rfl
      | true => exact absurd (Nat.lt_succ_self _) (hno _ (by rw [h, hp]; rfl))
    simp [ins, hP, ih]
  · intro pre c cs st out hm _ ih
    cases hP : P pre c cs <;> simp only [h, hP, if_true, if_false, Bool.false_eq_true, reduceCtorEq, Option.some.injEq] at hm
    subst hm
    simp [ins, hP, ih, expand, St.group?]

/-- the first character of a text (of the reversed text before `c`: the character before `c`) satisfies `p` -/
def after (p : Char → Bool) : List Char → Bool
  | [] => false
  | d :: _ => p d

/-- `[a-z]` -/
def lo (c : Char) : Bool := 97 ≤ c.toNat && c.toNat ≤ 122
/-- `[A-Z]` -/
def up (c : Char) : Bool := 65 ≤ c.toNat && c.toNat ≤ 90

/-- `\d`: a Unicode decimal digit by the pinned table, which below U+0660 holds `0`–`9` only (`dg_eq`); the shortcut keeps
the evaluation of an ASCII text away from the table -/
def dg (c : Char) : Bool :=
  if c.toNat < 1632 then 48 ≤ c.toNat && c.toNat ≤ 57 else inRanges Pinned.digitRanges c

/-- `$`: at the end of the text, or in front of its final newline -/
def atEnd (r : List Char) : Bool := decide (r = [] ∨ r = ['\n'])

/-- `(?<=[a-z])([A-Z])`: a capital after a small letter -/
def P1 (pre : List Char) (c : Char) (_ : List Char) : Bool := after lo pre && up c
/-- `(?<=[^_])([A-Z])(?=[a-z])`: a capital in front of a small letter, not at the start and not after an underscore -/
def P2 (pre : List Char) (c : Char) (cs : List Char) : Bool := after (· != '_') pre && up c && after lo cs
/-- `(?<=[a-z])(\d)(?=[A-Z]{2})`: a digit after a small letter and in front of two capitals -/
def P3 (pre : List Char) (c : Char) (cs : List Char) : Bool :=
  after lo pre && dg c && match cs with | a :: b :: _ => up a && up b | _ => false
/-- `(?<=[a-z])(\d)(?=[A-Z]$)`: a digit after a small letter and in front of a final capital -/
def P4 (pre : List Char) (c : Char) (cs : List Char) : Bool :=
  after lo pre && dg c && match cs with | a :: r => up a && atEnd r | [] => false

/-- the four substitutions of `to_snake_case` as four passes -/
def scan (s : List Char) : List Char := ins P4 ['_'] [] (ins P3 ['_'] [] (ins P2 ['_'] [] (ins P1 ['_'] [] s)))

/-- the patterns of `to_snake_case`: one character `c` of a class, captured, after a character of a class and (for all
but the first) in front of a text that `A` matches -/
theorem matchAt_ctx0 (t : ClassTables) (nb : Bool) (ib : List CItem) (nc : Bool) (ic : List CItem)
    (pre : List Char) (c : Char) (cs : List Char) :
    matchAt t (.seq (.look false false (.cls nb ib)) (.group 1 (.cls nc ic))) pre (c :: cs) =
      if after (clsTest t nb ib) pre && clsTest t nc ic c then some ⟨c :: pre, cs, [(1, [c])]⟩ else none := by
  cases pre with
  | nil => simp [matchAt, m, after]
  | cons p _ =>
    cases h1 : clsTest t nb ib p <;> cases h2 : clsTest t nc ic c <;> simp [matchAt, m, capture, after, h1, h2]

theorem matchAt_ctx (t : ClassTables) (nb : Bool) (ib : List CItem) (nc : Bool) (ic : List CItem) (A : Re)
    (pre : List Char) (c : Char) (cs : List Char) :
    matchAt t (.seq (.look false false (.cls nb ib)) (.seq (.group 1 (.cls nc ic)) (.look true false A))) pre (c :: cs) =
      if after (clsTest t nb ib) pre && clsTest t nc ic c && (m t A ⟨c :: pre, cs, [(1, [c])]⟩ some).isSome
      then some ⟨c :: pre, cs, [(1, [c])]⟩ else none := by
  cases pre with
  | nil => simp [matchAt, m, after]
  | cons p _ =>
    cases h1 : clsTest t nb ib p <;> cases h2 : clsTest t nc ic c <;> simp [matchAt, m, capture, after, h1, h2]

theorem dg_eq (c : Char) : inRanges Pinned.digitRanges c = dg c := by
  unfold dg
  split
  · rename_i h
    have tail : ∀ r ∈ Pinned.digitRanges.tail, 1632 ≤ r.1 := by decide +kernel
    have : Pinned.digitRanges = (48, 57) :: Pinned.digitRanges.tail := rfl
    rw [this, inRanges, List.any_cons, ← inRanges]
    have : inRanges Pinned.digitRanges.tail c = false := by
      simp only [inRanges, List.any_eq_false]
      intro r hr
      have := tail r hr
      simp; omega
    simp [this]
  · rfl

theorem cls_lo (t : ClassTables) : clsTest t false [.range 'a' 'z'] = lo := clsTest_range t 'a' 'z'
theorem cls_up (t : ClassTables) : clsTest t false [.range 'A' 'Z'] = up := clsTest_range t 'A' 'Z'
theorem cls_dg : clsTest Pinned.classTables false [.digit] = dg := by
  funext c; simp [clsTest, CItem.test, Pinned.classTables, dg_eq]

/-- the look-ahead bodies of the patterns, for any classes: one character, two characters, a character at the end -/
theorem ahead_cls (t : ClassTables) (n : Bool) (is : List CItem) (p cs : List Char) (caps : List (Nat × List Char)) :
    (m t (.cls n is) ⟨p, cs, caps⟩ some).isSome = after (clsTest t n is) cs := by
  cases cs <;> simp [m, after, apply_ite Option.isSome]

theorem ahead_cls_cls (t : ClassTables) (n n' : Bool) (is is' : List CItem) (p cs : List Char)
    (caps : List (Nat × List Char)) :
    (m t (.seq (.cls n is) (.cls n' is')) ⟨p, cs, caps⟩ some).isSome =
      match cs with | a :: b :: _ => clsTest t n is a && clsTest t n' is' b | _ => false := by
  rcases cs with _ | ⟨a, _ | ⟨b, _⟩⟩ <;> simp [m] <;> cases clsTest t n is a <;> simp [apply_ite Option.isSome]

theorem ahead_cls_eol (t : ClassTables) (n : Bool) (is : List CItem) (p cs : List Char) (caps : List (Nat × List Char)) :
    (m t (.seq (.cls n is) .eol) ⟨p, cs, caps⟩ some).isSome =
      match cs with | a :: r => clsTest t n is a && atEnd r | [] => false := by
  rcases cs with _ | ⟨a, r⟩ <;> simp [m, atEnd] <;> cases clsTest t n is a <;> simp
  split <;> simp_all

/-- **`to_snake_case` is four passes, each putting an underscore in front of the characters its pattern describes** (then
`.lower()`), for every text -/
theorem snakeSubs_eq (s : List Char) :
    Model.Grpc.snakeSubs s = scan s := by
  have e : ("_".toList : List Char) = ['_'] := String.toList_ofList
  unfold Model.Grpc.snakeSubs scan Pinned.snake1Repl Pinned.snake2Repl Pinned.snake3Repl Pinned.snake4Repl
  simp only [e]
  rw [pySub_eq_ins _ Pinned.snake1.re P1, pySub_eq_ins _ Pinned.snake2.re P2, pySub_eq_ins _ Pinned.snake3.re P3,
    pySub_eq_ins _ Pinned.snake4.re P4]
  · intro pre c cs
    rw [Pinned.snake4, matchAt_ctx, ahead_cls_eol, cls_lo, cls_dg, cls_up]; rfl
  · intro pre c cs
    rw [Pinned.snake3, matchAt_ctx, ahead_cls_cls, cls_lo, cls_dg, cls_up]; rfl
  · intro pre c cs
    rw [Pinned.snake2, matchAt_ctx, ahead_cls, clsTest_not_ch, cls_up, cls_lo]; rfl
  · intro pre c cs
    rw [Pinned.snake1, matchAt_ctx0, cls_lo, cls_up]; rfl

theorem ins_eq_or_mem (P : List Char → Char → List Char → Bool) (u : Char) :
    ∀ (s pre : List Char), ins P [u] pre s = s ∨ u ∈ ins P [u] pre s
  | [], _ => .inl rfl
  | c :: cs, pre => by
    cases h : P pre c cs <;> simp only [ins, h]
    · exact (ins_eq_or_mem P u cs (c :: pre)).imp (congrArg (c :: ·)) (List.mem_cons_of_mem _)
    · exact .inr (by simp)

/-- no position satisfies `P` as long as the text from there on satisfies `q` -/
theorem ins_eq_self (P : List Char → Char → List Char → Bool) (u : List Char) (q : Char → Prop)
    (h : ∀ pre c cs, (∀ d ∈ c :: cs, q d) → P pre c cs = false) :
    ∀ (s pre : List Char), (∀ d ∈ s, q d) → ins P u pre s = s
  | [], _, _ => rfl
  | c :: cs, pre, hs => by
    simp [ins, h pre c cs hs, ins_eq_self P u q h cs (c :: pre) fun d hd => hs d (List.mem_cons_of_mem _ hd)]

theorem scan_eq_or_mem (s : List Char) : scan s = s ∨ '_' ∈ scan s := by
  have step (P) (x : List Char) (h : x = s ∨ '_' ∈ x) : ins P ['_'] [] x = s ∨ '_' ∈ ins P ['_'] [] x := by
    rcases ins_eq_or_mem P '_' x [] with e | m
    · rw [e]; exact h
    · exact .inr m
  exact step P4 _ (step P3 _ (step P2 _ (step P1 _ (.inl rfl))))

def noCap (c : Char) : Prop := ¬(65 ≤ c.toNat ∧ c.toNat ≤ 90)

theorem up_false {c : Char} (h : noCap c) : up c = false := by simpa [up, noCap] using h

/-- each of the four patterns needs a capital letter at or after the position -/
theorem scan_of_noCap (s : List Char) (hs : ∀ c ∈ s, noCap c) : scan s = s := by
  unfold scan
  rw [ins_eq_self P1 _ noCap (fun pre c cs h => by simp [P1, up_false (h c (by simp))]) s [] hs,
    ins_eq_self P2 _ noCap (fun pre c cs h => by simp [P2, up_false (h c (by simp))]) s [] hs,
    ins_eq_self P3 _ noCap (fun pre c cs h => by
      rcases cs with _ | ⟨a, _ | ⟨b, _⟩⟩ <;> simp [P3]
      exact fun _ _ ha => absurd ha (by simp [up_false (h a (by simp))])) s [] hs,
    ins_eq_self P4 _ noCap (fun pre c cs h => by
      rcases cs with _ | ⟨a, r⟩ <;> simp [P4]
      exact fun _ _ ha => absurd ha (by simp [up_false (h a (by simp))])) s [] hs]

open GapicModel.Model.Grpc

theorem snake_eq_scan (s : Str) : snake s = lower (scan s) := congrArg lower (snakeSubs_eq s)

/-- `snake` IS the code's current `to_snake_case` (`Pinned.Funcs.to_snake_case`, translated by harness/pyfun2lean.py) -/
theorem snake_eq_translated (s : Str) : snake s = Pinned.Funcs.to_snake_case s := by
  rfl

theorem lowerChar_eq_underscore {c : Char} : lowerChar c = '_' ↔ c = '_' := by
  have hb : ∀ n < 91, 65 ≤ n → Char.ofNat (n + 32) ≠ '_' := by decide +kernel
  unfold lowerChar
  split
  · rename_i h
    exact ⟨fun e => absurd e (hb _ (by omega) h.1), by rintro rfl; simp at h⟩
  · rfl

theorem mem_lower_underscore {s : Str} : '_' ∈ lower s ↔ '_' ∈ s := by
  simp [lower, lowerChar_eq_underscore]

/-- `to_snake_case` only ever inserts underscores: a text it changes (apart from letter case) has one afterwards -/
theorem snake_eq_lower_or_mem (s : Str) : snake s = lower s ∨ '_' ∈ snake s := by
  rw [snake_eq_scan]
  rcases scan_eq_or_mem s with e | m
  · rw [e]; exact .inl rfl
  · exact .inr (mem_lower_underscore.mpr m)

/-- a name, suffixed when its lower-case form is in a table of underscore-free words, is snake-cased to a word outside the
table: unchanged by the substitutions it is the lower-case form (outside, or carrying the suffix), changed it holds a `_` -/
theorem snake_suffixed_not_mem (tbl : List Str) (h : ∀ k ∈ tbl, '_' ∉ k) (n : Str) :
    snake (if tbl.contains (lower n) then n ++ ['_'] else n) ∉ tbl := by
  split
  · intro hm
    rcases snake_eq_lower_or_mem (n ++ ['_']) with e | m
    · exact h _ hm (by rw [e]; exact mem_lower_underscore.mpr (by simp))
    · exact h _ hm m
  · rename_i hn
    intro hm
    rcases snake_eq_lower_or_mem n with e | m
    · exact hn (List.contains_iff_mem.mpr (e ▸ hm))
    · exact h _ hm m

theorem clientAttr_not_keyword (T : Tables) (h : ∀ k ∈ T.kw, '_' ∉ k) (n : Str) :
    snake (clientMethodName T n) ∉ T.kw := snake_suffixed_not_mem T.kw h n

theorem stubKey_safe (T : Tables) (h : ∀ k ∈ T.unsafeExtra ++ T.kw, '_' ∉ k) (n : Str) :
    snake (transportSafeName T n) ∉ T.unsafeExtra ++ T.kw := snake_suffixed_not_mem _ h n

theorem lower_of_noCap (s : Str) (h : ∀ c ∈ s, noCap c) : lower s = s := by
  induction s with
  | nil => rfl
  | cons c cs ih =>
    simp only [lower, List.map_cons] at ih ⊢
    rw [ih fun c hc => h c (List.mem_cons_of_mem _ hc), lowerChar, if_neg (h c List.mem_cons_self)]

theorem snake_of_noCap (s : Str) (h : ∀ c ∈ s, noCap c) : snake s = s := by
  rw [snake_eq_scan, scan_of_noCap s h, lower_of_noCap s h]

theorem pinnedTables_eq : pinnedTables = ⟨Tables.keywords, Tables.unsafeExtra⟩ := by
  rw [pinnedTables, Tables.keywords_eq, Tables.unsafeExtra_eq]

theorem pinned_no_underscore : ∀ k ∈ pinnedTables.unsafeExtra ++ pinnedTables.kw, '_' ∉ k := by
  rw [pinnedTables_eq]
  intro k hk
  rcases List.mem_append.mp hk with h | h
  · exact Tables.unsafeExtra_no_underscore k h
  · exact Tables.keywords_no_underscore k h

theorem pinned_kw_no_underscore : ∀ k ∈ pinnedTables.kw, '_' ∉ k :=
  fun k hk => pinned_no_underscore k (List.mem_append_right _ hk)

open GapicModel.Model

theorem lowerChar_eq : Names.lowerChar = Grpc.lowerChar := by
  funext c
  rfl

theorem toSnakeCase_eq_snake (s : List Char) : Names.toSnakeCase s = snake s := by
  simp only [Names.toSnakeCase, snake, snakeSubs, Grpc.lower, lowerChar_eq]

theorem isKeyword_ofList (l : List Char) : Names.isKeyword (String.ofList l) = pinnedTables.kw.contains l :=
  Tables.contains_ofList _ l

theorem clientMethodName_toList (w : String) :
    (Names.clientMethodName w).toList = clientMethodName pinnedTables w.toList := by
  simp only [Names.clientMethodName, clientMethodName, Names.lower, isKeyword_ofList, lowerChar_eq, Grpc.lower,
    apply_ite String.toList, Tables.toList_suffixed]
  rfl

end GapicModel.Lemmas.Snake
