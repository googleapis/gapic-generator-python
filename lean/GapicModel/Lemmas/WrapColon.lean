import GapicModel.Lemmas.WrapWords
import GapicModel.Lemmas.RegexSound
/-
C20 — `re.sub(r":\n([^\n])", r":\n\n\1", text)` of `gapic.utils.lines.wrap` as a plain function on the text
(`colonSub`), proved equal to the regex engine running the pinned pattern, and its effect on words.
-/
namespace GapicModel.Lemmas.WrapColon
open GapicModel.Regex GapicModel.Model.Wrap GapicModel.Lemmas.Words GapicModel.Lemmas.WrapWords
open GapicModel.Lemmas.MapRuns (allWs_nil allWs_cons)
open GapicModel.Lemmas.CodeLines (Ctx)

/-- the pattern matches here: `:` `\n` and a character that is not a line break -/
def colonHit : Str → Option (Char × Str)
  | ':' :: '\n' :: x :: r => if x = '\n' then none else some (x, r)
  | _ => none

theorem colonHit_some {s : Str} {x : Char} {r : Str} (h : colonHit s = some (x, r)) :
    s = ':' :: '\n' :: x :: r ∧ x ≠ '\n' := by
  unfold colonHit at h
  split at h
  · split at h
    · cases h
    · cases h; exact ⟨rfl, ‹_›⟩
  · cases h

theorem colonHit_hit (x : Char) (r : Str) (hx : x ≠ '\n') : colonHit (':' :: '\n' :: x :: r) = some (x, r) := by
  simp [colonHit, hx]

/-- `re.sub(r":\n([^\n])", r":\n\n\1", s)` -/
def colonSub : Str → Str
  | [] => []
  | c :: cs =>
    match h : colonHit (c :: cs) with
    | some (x, r) => ':' :: '\n' :: '\n' :: x :: colonSub r
    | none => c :: colonSub cs
termination_by s => s.length
decreasing_by
  · have := (colonHit_some h).1
    have := congrArg List.length this
    simp only [List.length_cons] at this ⊢
    omega
  · simp

theorem colonSub_nil : colonSub [] = [] := by unfold colonSub; rfl

theorem colonSub_hit (x : Char) (r : Str) (hx : x ≠ '\n') :
    colonSub (':' :: '\n' :: x :: r) = ':' :: '\n' :: '\n' :: x :: colonSub r := by
  rw [colonSub]
  split <;> rename_i heq <;> rw [colonHit_hit x r hx] at heq <;> cases heq
  rfl

theorem colonSub_miss (c : Char) (cs : Str) (h : ∀ x r, c :: cs = ':' :: '\n' :: x :: r → x = '\n') :
    colonSub (c :: cs) = c :: colonSub cs := by
  rw [colonSub]
  split
  · rename_i heq; exact absurd (h _ _ (colonHit_some heq).1) (colonHit_some heq).2
  · rfl

theorem matchAt_colon_hit (pre : Str) (x : Char) (r : Str) (hx : x ≠ '\n') :
    matchAt T Pinned.wrapColon.re pre (':' :: '\n' :: x :: r) = some ⟨x :: '\n' :: ':' :: pre, r, [(1, [x])]⟩ := by
  have hx' : ('\n' == x) = false := by simpa using fun e => hx e.symm
  simp [matchAt, Pinned.wrapColon, m, clsTest, CItem.test, hx', capture]

theorem matchAt_colon_some {pre s : Str} {st : St} (h : matchAt T Pinned.wrapColon.re pre s = some st) :
    ∃ x r, s = ':' :: '\n' :: x :: r ∧ x ≠ '\n' := by
  obtain ⟨_, hr, e1⟩ := (matchAt_sound h).chr_prefix
  obtain ⟨_, hr, e2⟩ := hr.chr_prefix
  obtain ⟨_, hr, -⟩ := hr.group_inv
  obtain ⟨d, r, hs, ht, -⟩ := hr.cls_inv
  refine ⟨d, r, by rw [show s = _ from e1, e2, hs], fun e => ?_⟩
  subst e; simp [clsTest, CItem.test] at ht

theorem pySub_colon (s : Str) : pySub T Pinned.wrapColon.re Pinned.wrapColonRepl s = colonSub s := by
  refine subLoop_induction (motive := fun _ s out => out = colonSub s) (fun _ => colonSub_nil.symm) ?_ ?_ _ [] s
    (Nat.lt_succ_self _)
  · intro pre c cs out hno ih
    rw [ih, colonSub_miss c cs fun x r e => Decidable.byContradiction fun hx => ?_]
    exact hno _ (e ▸ matchAt_colon_hit pre x r hx) (by rw [e]; simp only [List.length_cons]; omega)
  · intro pre c cs st out hm _ ih
    obtain ⟨x, r, hs, hx⟩ := matchAt_colon_some hm
    rw [hs, matchAt_colon_hit pre x r hx] at hm
    obtain rfl := Option.some.inj hm
    rw [hs, colonSub_hit _ _ hx, ih]
    simp [expand, Pinned.wrapColonRepl, St.group?]

/-- `colonSub` only inserts a line break next to a line break -/
theorem colonSub_eqv (s : Str) : Eqv T (colonSub s) s := by
  fun_induction colonSub s with
  | case1 => exact Ctx.refl _ []
  | case2 c cs x r h ih =>
    rw [(colonHit_some h).1]
    have hb : Eqv T ['\n', '\n'] ['\n'] :=
      Eqv.blank (allWs_cons ws_nl (allWs_cons ws_nl allWs_nil)) (allWs_cons ws_nl allWs_nil) (by simp) (by simp)
    exact Ctx.cons ':' (Ctx.append (a := ['\n', '\n']) (a' := ['\n']) hb (Ctx.cons x ih))
  | case3 c cs h ih => exact Ctx.cons c ih

/-- no match can start inside a prefix without line breaks unless it ends in `:` and a line break follows -/
theorem colonSub_prefix : ∀ (P s : Str), '\n' ∉ P → (P.getLast? ≠ some ':' ∨ s.head? ≠ some '\n') →
    colonSub (P ++ s) = P ++ colonSub s
  | [], _, _, _ => rfl
  | [c], s, _, h => by
    rw [List.singleton_append, colonSub_miss c s fun x r e => by cases e; simp at h]; rfl
  | c :: d :: P, s, hnl, h => by
    have hd : d ≠ '\n' := fun e => hnl (by simp [e])
    show colonSub (c :: d :: (P ++ s)) = _
    rw [colonSub_miss c _ fun _ _ e => absurd (List.cons.inj (List.cons.inj e).2).1 hd, ← List.cons_append,
      colonSub_prefix (d :: P) s (fun e => hnl (List.mem_cons_of_mem _ e)) (by simpa [List.getLast?_cons_cons] using h)]
    rfl

theorem colonSub_no_nl (P : Str) (hnl : '\n' ∉ P) : colonSub P = P := by
  simpa [colonSub_nil] using colonSub_prefix P [] hnl (Or.inr (by simp))

/-- what the colon rule does right after `:` and a line break: one line break may be inserted, so the words of
what follows are kept whether or not one more character is dropped -/
theorem colonSub_after_colon (R : Str) : ∃ Z, colonSub (':' :: '\n' :: R) = ':' :: '\n' :: Z ∧
    words T Z = words T R ∧ words T (Z.drop 1) = words T R := by
  have hnl : ∀ cs, colonSub ('\n' :: cs) = '\n' :: colonSub cs :=
    fun cs => colonSub_miss '\n' cs fun _ _ e => by cases e
  cases R with
  | nil => exact ⟨[], by rw [colonSub_miss ':' _ (fun _ _ e => by cases e), hnl, colonSub_nil], rfl, rfl⟩
  | cons x R2 =>
    by_cases hx : x = '\n'
    · subst hx
      refine ⟨'\n' :: colonSub R2, by rw [colonSub_miss ':' _ (fun _ _ e => by cases e; rfl), hnl, hnl],
        Ctx.eq (Ctx.cons '\n' (colonSub_eqv R2)), ?_⟩
      rw [words_cons_ws T '\n' ws_nl]; exact Ctx.eq (colonSub_eqv R2)
    · refine ⟨'\n' :: x :: colonSub R2, colonSub_hit x R2 hx, ?_, Ctx.eq (Ctx.cons x (colonSub_eqv R2))⟩
      rw [words_cons_ws T '\n' ws_nl]; exact Ctx.eq (Ctx.cons x (colonSub_eqv R2))

/-- cutting after a whitespace character that follows a prefix without line breaks: the prefix and the
character are untouched and what follows keeps its words -/
theorem colonSub_cut (P : Str) (e : Char) (R : Str) (hnl : '\n' ∉ P) (he : isWs T e = true) :
    ∃ Z, colonSub (P ++ e :: R) = P ++ e :: Z ∧ words T Z = words T R := by
  by_cases hc : P.getLast? = some ':' ∧ e = '\n'
  · obtain ⟨P0, rfl⟩ := List.getLast?_eq_some_iff.mp hc.1
    obtain ⟨Z, hZ, h1, -⟩ := colonSub_after_colon R
    refine ⟨Z, ?_, h1⟩
    rw [hc.2, List.append_assoc, List.singleton_append,
      colonSub_prefix P0 _ (fun h => hnl (by simp [h])) (Or.inr (by simp)), hZ]
    simp
  · refine ⟨colonSub R, ?_, Ctx.eq (colonSub_eqv R)⟩
    rw [colonSub_prefix P (e :: R) hnl ((Decidable.not_and_iff_not_or_not.mp hc).imp_right fun h => by simpa using h),
      colonSub_miss e R fun _ _ h => by cases h; exact absurd he (by decide)]

/-- **cutting the text after its wrapped first line**: with `P` the part of the first line that was kept
(no line break in it) and what follows either nothing or starting with whitespace, dropping `|P| + 1`
characters after the colon rule has run loses no word -/
theorem cut_words (P X : Str) (hnl : '\n' ∉ P) (hX : X = [] ∨ ∃ e R, X = e :: R ∧ isWs T e = true) :
    words T P ++ words T ((colonSub (P ++ X)).drop (P.length + 1)) = words T (P ++ X) := by
  rcases hX with rfl | ⟨e, R, rfl, he⟩
  · rw [List.append_nil, colonSub_no_nl P hnl, List.drop_of_length_le (by omega), words_nil]; simp
  · obtain ⟨Z, hZ, hw⟩ := colonSub_cut P e R hnl he
    rw [hZ, words_append_ws T P e he R, ← hw, show P ++ e :: Z = (P ++ [e]) ++ Z by simp, List.drop_left' (by simp)]

end GapicModel.Lemmas.WrapColon
