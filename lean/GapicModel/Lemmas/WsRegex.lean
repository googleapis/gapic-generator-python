import GapicModel.Model.Whitespace
import GapicModel.Lemmas.RegexComplete
import GapicModel.Lemmas.RegexCaps
/-
Regexes that consume only whitespace, for any class tables: what a run of one consumed (`Run.ws`), and the pieces
`\s`, `\s*`, `\s+` of the `fix_whitespace` patterns in both directions (used by Lemmas/FixWsRuns).
-/
namespace GapicModel.Regex
open GapicModel.Model.Whitespace

/-- regexes that consume only whitespace -/
def wsRe (t : ClassTables) : Re → Bool :=
  atomsOk (isWs t) fun | .space => true | .ch c => isWs t c | _ => false

theorem Run.ws {t : ClassTables} {r : Re} {s s' : St} (h : Run t r s s') (hw : wsRe t r = true) :
    ∃ w, s.rest = w ++ s'.rest ∧ ∀ c ∈ w, isWs t c = true := by
  obtain ⟨w, e, _, a⟩ := h.chars (p := (isWs t · = true)) (fun _ => id) (fun it d hi ht => by
    cases it with
    | space => exact ht
    | ch c => exact beq_iff_eq.mp ht ▸ hi
    | _ => cases hi) hw
  exact ⟨w, e, a⟩

theorem Run.ws_prefix {t a b s s'} (h : Run t (.seq a b) s s') (hw : wsRe t a = true) :
    ∃ s1 w, Run t b s1 s' ∧ s.rest = w ++ s1.rest ∧ (∀ c ∈ w, isWs t c = true) := by
  obtain ⟨s1, h1, h2⟩ := h.seq_inv
  obtain ⟨w, hr, ha⟩ := h1.ws hw
  exact ⟨s1, w, h2, hr, ha⟩

/-- the prefix `\s+` consumes at least one character -/
theorem Run.SP_prefix {t b s s'} (h : Run t (.seq SP b) s s') :
    ∃ s1 w, Run t b s1 s' ∧ s.rest = w ++ s1.rest ∧ (∀ c ∈ w, isWs t c = true) ∧ w ≠ [] := by
  obtain ⟨s1, h1, h2⟩ := h.seq_inv
  obtain ⟨w, e, a⟩ := h1.ws rfl
  have := h1.rest_lt rfl
  exact ⟨s1, w, h2, e, a, by rintro rfl; simp [e] at this⟩

variable {t : ClassTables}

theorem Goes.ofS {c : Char} (h : isWs t c = true) : Goes t S [c] :=
  Goes.cls (by simpa [clsTest, CItem.test, isWs] using h)

theorem Goes.ofStarS : ∀ w : List Char, (∀ c ∈ w, isWs t c = true) → Goes t SS w
  | [], _ => Goes.star0
  | c :: w, hw => Goes.starS (Goes.ofS (hw c (.head _))) (by simp) (Goes.ofStarS w fun d hd => hw d (.tail _ hd))

theorem Goes.ofSP : ∀ {w : List Char}, w ≠ [] → (∀ c ∈ w, isWs t c = true) → Goes t SP w
  | c :: w, _, hw => Goes.seq (Goes.ofS (hw c (.head _))) (Goes.ofStarS w fun d hd => hw d (.tail _ hd))

end GapicModel.Regex
