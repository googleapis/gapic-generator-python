import GapicModel.Lemmas.RegexSound
/-
Completeness of the CPS backtracking matcher w.r.t. the relational semantics `Run`, for patterns without
look-around: if SOME run of `r` from `s` reaches a state the continuation accepts, the matcher does not fail.
Together with `m_sound` this gives, for look-free patterns,  `matchAt t r pre rest = none ↔ no run exists`,
which is what a "left-most match" argument needs (every position the search skipped has no match at all).
A match is exhibited by `Goes t r w` ("`r` can consume exactly `w`"), built pattern by pattern.
-/
namespace GapicModel.Regex

/-- no look-ahead / look-behind anywhere in the pattern (`Run` over-approximates those) -/
def noLook : Re → Bool
  | .eps | .chr _ | .any | .cls _ _ | .bol | .eol => true
  | .seq a b => noLook a && noLook b
  | .alt a b => noLook a && noLook b
  | .star r _ => noLook r
  | .group _ r => noLook r
  | .look _ _ _ => false

/-- if some run of a look-free pattern ends in a state the continuation accepts, the matcher finds a match
(not necessarily that one: an alternative of higher priority may succeed first) -/
theorem Run.m_isSome {t : ClassTables} {r : Re} {s s' : St} (h : Run t r s s') (hl : noLook r = true)
    {k : K} (hk : (k s').isSome = true) : (m t r s k).isSome = true := by
  induction h generalizing k with
  | eps s => exact hk
  | chr c s r hs => simp only [m, hs, if_true]; exact hk
  | any s d r hs hd => simp only [m, hs, ne_eq, hd, not_false_eq_true, if_true]; exact hk
  | cls neg items s d r hs ht => simp only [m, hs, ht, if_true]; exact hk
  | seq a b s s1 s2 _ _ ih1 ih2 =>
    simp only [noLook, Bool.and_eq_true] at hl
    exact ih1 hl.1 (ih2 hl.2 hk)
  | altL a b s s1 _ ih =>
    simp only [noLook, Bool.and_eq_true] at hl
    simp [m_alt_eq, ih hl.1 hk]
  | altR a b s s1 _ ih =>
    simp only [noLook, Bool.and_eq_true] at hl
    simp [m_alt_eq, ih hl.2 hk]
  | star0 r g s => rw [m_star_unfold]; cases g <;> simp [hk]
  | starS r g s s1 s2 _ hlt _ ih1 ih2 =>
    have := ih1 (k := fun s' => if s'.rest.length < s.rest.length then m t (.star r g) s' k else none) hl
      (by simp only [hlt, if_true]; exact ih2 hl hk)
    rw [m_star_unfold]; cases g <;> simp [this]
  | group i r s s1 _ ih => exact ih hl hk
  | bol s hp => simpa only [m, hp, if_true] using hk
  | eol s hp => simpa only [m, hp, if_true] using hk
  | look a n r s => cases hl

/-- `Run.m_isSome`, and the same for the loop of a `star` at any sufficient fuel -/
def Complete (t : ClassTables) (r : Re) (s s' : St) : Prop :=
  ∀ k : K, (k s').isSome = true →
    (m t r s k).isSome = true ∧
    (∀ r0 g, r = .star r0 g → ∀ n, s.rest.length ≤ n → (starLoop (m t r0) g k n s).isSome = true)

theorem Run.complete {t : ClassTables} {r : Re} {s s' : St} (h : Run t r s s') (hl : noLook r = true) :
    Complete t r s s' := by
  refine fun k hk => ⟨h.m_isSome hl hk, ?_⟩
  rintro r0 g rfl n hn
  rw [starLoop_fuel t r0 g k s n hn]
  exact h.m_isSome hl hk

theorem matchAt_complete {t : ClassTables} {r : Re} {pre rest : List Char} {st : St}
    (h : Run t r ⟨pre, rest, []⟩ st) (hl : noLook r = true) : (matchAt t r pre rest).isSome = true :=
  h.m_isSome hl rfl

theorem matchAt_none_iff {t : ClassTables} {r : Re} (hl : noLook r = true) (pre rest : List Char) :
    matchAt t r pre rest = none ↔ ¬ ∃ st, Run t r ⟨pre, rest, []⟩ st := by
  constructor
  · intro hn ⟨st, hr⟩
    have := matchAt_complete hr hl
    rw [hn] at this
    cases this
  · intro hno
    cases hm : matchAt t r pre rest with
    | none => rfl
    | some st => exact absurd ⟨st, matchAt_sound hm⟩ hno

variable {t : ClassTables}

/-- from any state whose rest starts with `w`, `r` can consume exactly `w` -/
def Goes (t : ClassTables) (r : Re) (w : List Char) : Prop :=
  ∀ pre rest caps, ∃ caps', Run t r ⟨pre, w ++ rest, caps⟩ ⟨w.reverse ++ pre, rest, caps'⟩

theorem Goes.eps : Goes t .eps [] := fun _ _ caps => ⟨caps, .eps _⟩

theorem Goes.seq {a b w1 w2} (h1 : Goes t a w1) (h2 : Goes t b w2) : Goes t (.seq a b) (w1 ++ w2) := by
  intro pre rest caps
  obtain ⟨c1, r1⟩ := h1 pre (w2 ++ rest) caps
  obtain ⟨c2, r2⟩ := h2 (w1.reverse ++ pre) rest c1
  exact ⟨c2, by simpa [List.append_assoc] using Run.seq _ _ _ _ _ r1 r2⟩

theorem Goes.chr (c : Char) : Goes t (.chr c) [c] := fun pre rest caps =>
  ⟨caps, .chr c ⟨pre, c :: rest, caps⟩ rest rfl⟩

theorem Goes.cls {neg items} {c : Char} (h : clsTest t neg items c = true) : Goes t (.cls neg items) [c] := fun pre rest caps =>
  ⟨caps, .cls neg items ⟨pre, c :: rest, caps⟩ c rest rfl h⟩

theorem Goes.star0 {r g} : Goes t (.star r g) [] := fun _ _ caps => ⟨caps, .star0 _ _ _⟩

theorem Goes.starS {r g u v} (hu : Goes t r u) (hne : u ≠ []) (hv : Goes t (.star r g) v) : Goes t (.star r g) (u ++ v) := by
  intro pre rest caps
  obtain ⟨c1, r1⟩ := hu pre (v ++ rest) caps
  obtain ⟨c2, r2⟩ := hv (u.reverse ++ pre) rest c1
  have := List.length_pos_iff.mpr hne
  exact ⟨c2, by simpa [List.append_assoc] using Run.starS (t := t) r g _ _ _ r1 (by simp; omega) r2⟩

theorem Goes.group {r w} (i : Nat) (h : Goes t r w) : Goes t (.group i r) w := fun pre rest caps =>
  (h pre rest caps).elim fun _ r1 => ⟨_, .group i r _ _ r1⟩

theorem Goes.altL {a b w} (h : Goes t a w) : Goes t (.alt a b) w := fun pre rest caps =>
  (h pre rest caps).imp fun _ => .altL _ _ _ _

theorem Goes.altR {a b w} (h : Goes t b w) : Goes t (.alt a b) w := fun pre rest caps =>
  (h pre rest caps).imp fun _ => .altR _ _ _ _

theorem Goes.starChr (c : Char) (g : Bool) : ∀ k : Nat, Goes t (.star (.chr c) g) (List.replicate k c)
  | 0 => Goes.star0
  | k + 1 => Goes.starS (Goes.chr c) (by simp) (Goes.starChr c g k)

/-- a literal, as the translator emits it -/
theorem Goes.lits : ∀ cs : List Char, Goes t (seqR (cs.map .chr)) cs
  | [] => Goes.eps
  | [c] => Goes.chr c
  | c :: d :: cs => Goes.seq (Goes.chr c) (Goes.lits (d :: cs))

theorem Goes.matchAt_isSome {r w} (h : Goes t r w) (hl : noLook r = true) (pre rest : List Char) :
    (matchAt t r pre (w ++ rest)).isSome = true :=
  (h pre rest []).elim fun _ r1 => matchAt_complete r1 hl

end GapicModel.Regex
