import GapicModel.Model.Mock
import GapicModel.Lemmas.Keyed
/-
Helper lemmas for Props/C13: the names `sample` hands out, `decDigits` as core's `Nat.toDigits 10`, bounds of `ordSum`, what the
primitive and enum mocks are, the visited-set invariant of `mockOrigF` (termination within `env.length + 1` levels), its values
fit their fields, `chainF` where a branch has no value, monotonicity of `chainF` / `mockValueF` in the fuel.
-/
namespace GapicModel.Lemmas.C13Mock
open GapicModel.Model.Mock

/-! ### `sample`: which names the generator hands out -/

def isWild : Tok → Bool
  | .lit _ => false
  | _ => true

/-- the names used are the next `n` numbers, `n` the number of wildcards -/
theorem sample_names (toks : List Tok) (k : Nat) :
    (sample k toks).2.2 = List.range' (k + 1) (toks.filter isWild).length ∧
    (sample k toks).2.1 = k + (toks.filter isWild).length := by
  induction toks generalizing k with
  | nil => exact ⟨rfl, rfl⟩
  | cons t r ih =>
    cases t with
    | lit cs => exact ih k
    | star | dstar =>
      obtain ⟨h1, h2⟩ := ih (k + 1)
      exact ⟨congrArg _ h1, by rw [sample, h2]; exact Nat.add_right_comm k 1 _⟩

/-! ### `str(n)`: `decDigits` is core's `Nat.toDigits 10` -/

theorem digitChar_eq {m : Nat} (h : m < 10) : digitChar m = Nat.digitChar m := by
  revert m; decide

theorem decDigitsAux_eq (f n : Nat) (acc : Str) : decDigitsAux f n acc = Nat.toDigitsCore 10 f n acc := by
  induction f generalizing n acc with
  | zero => rfl
  | succ f ih =>
    rw [decDigitsAux, Nat.toDigitsCore, digitChar_eq (Nat.mod_lt n (by decide))]
    split
    · rfl
    · exact ih ..

theorem decDigits_eq (n : Nat) : decDigits n = Nat.toDigits 10 n := decDigitsAux_eq ..

theorem decDigits_ne_nil (n : Nat) : decDigits n ≠ [] := decDigits_eq n ▸ Nat.toDigits_ne_nil

/-- `n < 10 ^ len(str(n))` … -/
theorem lt_pow_decDigits_length (n : Nat) : n < 10 ^ (decDigits n).length := by
  rw [decDigits_eq]
  exact (Nat.length_toDigits_le_iff (by decide) Nat.length_toDigits_pos).mp (Nat.le_refl _)

/-- … and no shorter numeral would do: `10 ^ (len(str(n)) - 1) ≤ n` for `n ≠ 0` -/
theorem pow_decDigits_length_le {n : Nat} (h : 0 < n) : 10 ^ (decDigits n).length ≤ 10 * n := by
  rw [decDigits_eq]
  cases hd : (Nat.toDigits 10 n).length with
  | zero => omega
  | succ d =>
    cases d with
    | zero => omega
    | succ d =>
      have := mt (Nat.length_toDigits_le_iff (n := n) (by decide : 1 < 10) (Nat.succ_pos d)).mpr (by omega)
      rw [Nat.pow_succ]; omega

/-! ### `sum(ord(c))` of an ASCII name -/

theorem ordSum_le (name : Str) (h : ∀ c ∈ name, c.toNat < 128) : ordSum name ≤ 127 * name.length := by
  induction name with
  | nil => exact Nat.le_refl 0
  | cons c r ih =>
    have hc := h c List.mem_cons_self
    have hr := ih fun d hd => h d (List.mem_cons_of_mem _ hd)
    simp only [ordSum, List.length_cons]; omega

theorem primitiveMock_suffix_truthy (t : PyT) (name : Str) (k : Nat) (hk : 0 < k) :
    truthy (primitiveMock t name k) = true := by
  cases t <;> simp only [primitiveMock]
  · rfl
  · split
    · rfl  -- `typeUrlMock` begins with a character that is written out
    · simp [truthy, valueSuffix]
  · simp [truthy, blobSuffix]
  · simp [truthy]; omega
  · simp [truthy]; omega

theorem primFits_primitiveMock (t : PyT) (name : Str) (k : Nat) : primFits t (primitiveMock t name k) = true := by
  cases t
  case str => simp only [primitiveMock]; split <;> rfl
  all_goals rfl

theorem orNone_truthy {v : PyVal} (h : truthy v = true) : orNone v = v := by simp [orNone, h]

theorem enumMockNumber_spec {vals : List (Str × Int)} {n : Int} (h : enumMockNumber vals = some n) :
    (∃ v ∈ vals, v.2 = n) ∧ ((∃ v ∈ vals, v.2 ≠ 0) → n ≠ 0) := by
  cases vals with
  | nil => cases h
  | cons v0 r =>
    simp only [enumMockNumber, Option.some.injEq] at h
    cases hf : List.find? (fun v => decide (v.2 ≠ 0)) (v0 :: r) with
    | none =>
      rw [hf] at h
      exact ⟨⟨v0, by simp, by simpa using h⟩, fun ⟨w, hw, hw0⟩ => absurd (by simpa using List.find?_eq_none.mp hf w hw) hw0⟩
    | some x =>
      rw [hf, Option.getD_some] at h
      exact ⟨⟨x, List.mem_of_find?_eq_some hf, h⟩, fun _ => by simpa [h] using List.find?_some hf⟩

theorem foldFields_cons_ok {rec : List Nat → Field → Except MockErr (PyVal × List Nat)} {vis vis' : List Nat}
    {f : Field} {r : List Field} {d : PyVal} :
    foldFields rec vis (f :: r) = .ok (d, vis') ↔
      ∃ v vis1 d', rec vis f = .ok (v, vis1) ∧ foldFields rec vis1 r = .ok (d', vis') ∧ d = .dcons f.name v d' := by
  constructor
  · intro h
    rw [foldFields] at h
    split at h
    · cases h
    next v vis1 h1 =>
      split at h
      · cases h
      next d' vis2 h2 => cases h; exact ⟨v, vis1, d', h1, h2, rfl⟩
  · rintro ⟨v, vis1, d', h1, h2, rfl⟩
    simp only [foldFields, h1, h2]

/-! ### `mock_value_original_type` ends: the visited set grows at every descent -/

/-- what protoc guarantees of a field: its message type exists, its enum has a value -/
def fieldOk (env : Env) (f : Field) : Bool :=
  match f.ty with
  | .msg id => decide (id < env.length)
  | .enum _ vals => vals != []
  | .prim _ => true

/-- every field of every message of the environment is `fieldOk` -/
def closed (env : Env) : Bool := env.all fun m => m.fields.all (fieldOk env)

/-- the visited set of `mock_value_original_type`: no class twice, classes of the environment only (so it is bounded) -/
def Inv (env : Env) (vis : List Nat) : Prop := vis.Nodup ∧ vis ⊆ env.map (·.cls)

theorem Inv.length_le {env : Env} {vis : List Nat} (h : Inv env vis) : vis.length ≤ env.length := by
  have := List.Nodup.length_le_of_subset h.1 h.2
  simpa using this

theorem closed_fields {env : Env} (hc : closed env = true) {m : MsgDef} (hm : m ∈ env) :
    ∀ f ∈ m.fields, fieldOk env f = true :=
  fun f hf => List.all_eq_true.mp (List.all_eq_true.mp hc m hm) f hf

def StepOk (env : Env) (vis : List Nat) (r : Except MockErr (PyVal × List Nat)) : Prop :=
  ∃ v vis', r = .ok (v, vis') ∧ Inv env vis' ∧ vis.length ≤ vis'.length

theorem foldFields_ok {env : Env} {N fuel : Nat} {rec : List Nat → Field → Except MockErr (PyVal × List Nat)}
    (hrec : ∀ {vis f}, fieldOk env f = true → Inv env vis → N ≤ fuel + vis.length → StepOk env vis (rec vis f))
    {fs : List Field} {vis : List Nat} (hok : ∀ f ∈ fs, fieldOk env f = true) (hi : Inv env vis)
    (hb : N ≤ fuel + vis.length) : StepOk env vis (foldFields rec vis fs) := by
  induction fs generalizing vis with
  | nil => exact ⟨.dnil, vis, rfl, hi, Nat.le_refl _⟩
  | cons f r ih =>
    obtain ⟨v, vis1, h1, hi1, hl1⟩ := hrec (hok f List.mem_cons_self) hi hb
    obtain ⟨d, vis2, h2, hi2, hl2⟩ := ih (fun g hg => hok g (List.mem_cons_of_mem _ hg)) hi1 (by omega)
    exact ⟨_, vis2, foldFields_cons_ok.mpr ⟨v, vis1, d, h1, h2, rfl⟩, hi2, by omega⟩

theorem mockOrigF_ok {env : Env} (hc : closed env = true) {fuel : Nat} {vis : List Nat} {f : Field}
    (hf : fieldOk env f = true) (hi : Inv env vis) (hb : env.length + 1 ≤ fuel + vis.length) :
    StepOk env vis (mockOrigF fuel env vis f) := by
  induction fuel generalizing vis f with
  | zero => have := hi.length_le; omega
  | succ fuel ih =>
    have same : ∀ v, StepOk env vis (.ok (v, vis)) := fun v => ⟨v, vis, rfl, hi, Nat.le_refl _⟩
    unfold fieldOk at hf
    unfold mockOrigF
    split
    next id hty =>
      rw [hty] at hf
      have hid : id < env.length := of_decide_eq_true hf
      have hmem : env[id] ∈ env := List.getElem_mem hid
      rw [List.getElem?_eq_getElem hid]
      dsimp only
      by_cases hvis : env[id].cls ∈ vis
      · rw [if_pos hvis]; exact same _
      have hi1 : Inv env (env[id].cls :: vis) :=
        ⟨List.nodup_cons.mpr ⟨hvis, hi.1⟩, List.cons_subset.mpr ⟨List.mem_map.mpr ⟨_, hmem, rfl⟩, hi.2⟩⟩
      rw [if_neg hvis]
      split
      · exact ⟨_, _, rfl, hi1, Nat.le_succ _⟩
      split
      · exact ⟨_, _, rfl, hi1, Nat.le_succ _⟩
      obtain ⟨d, vis2, h2, hi2, hl2⟩ :=
        foldFields_ok (N := env.length + 1) ih (closed_fields hc hmem) hi1 (by rw [List.length_cons]; omega)
      rw [h2]
      exact ⟨_, vis2, rfl, hi2, Nat.le_of_succ_le hl2⟩
    next ident vals hty =>
      rw [hty] at hf
      cases vals with
      | nil => cases hf
      | cons v0 r => exact same _
    next t hty => split <;> exact same _

/-! ### the values fit the types they are handed to

`fits`, `fitsOne`, `fitsDict`, `fitsList` are defined by well-founded recursion with overlapping patterns.  Facts about them go
through `unfold` (the one equation that defines each): a per-case equation is generated on first use, and generating one costs
more than most lemmas here cost to check.  The kernel does not evaluate them: closed instances are unfolded by `simp`. -/

def distinctNames (env : Env) : Bool := env.all fun m => decide ((m.fields.map (·.name)).Nodup)

theorem distinctNames_fields {env : Env} (hd : distinctNames env = true) {m : MsgDef} (hm : m ∈ env) :
    (m.fields.map (·.name)).Nodup :=
  of_decide_eq_true (List.all_eq_true.mp hd m hm)

theorem findField_of_mem {fs : List Field} (hnd : (fs.map (·.name)).Nodup) {f : Field} (hf : f ∈ fs) :
    findField fs f.name = some f :=
  Keyed.find?_eq_of_key (·.name) _ f fs hnd hf fun _ => decide_eq_true_iff

/-- a value that may stand as an element of a repeated field of type `ty`: of the type and not `None` (what `fitsList` tests
of each element) -/
def Elem (strict : Bool) (env : Env) (v : PyVal) (ty : FType) : Prop :=
  (v != .none) = true ∧ fitsOne strict env v ty = true

theorem Elem.of_primFits (strict : Bool) (env : Env) {t : PyT} {v : PyVal} (h : primFits t v = true) :
    Elem strict env v (.prim t) := by
  cases v with
  | none => cases t <;> cases h
  | _ => exact ⟨rfl, by unfold fitsOne; exact h⟩

theorem foldFields_fits {strict : Bool} {env : Env} {all : List Field}
    {rec : List Nat → Field → Except MockErr (PyVal × List Nat)}
    (hrec : ∀ {vis f v vis'}, rec vis f = .ok (v, vis') → fits strict env v f.ty f.repeated = true)
    {fs : List Field} {vis : List Nat} {d : PyVal} {vis' : List Nat} (hfind : ∀ f ∈ fs, findField all f.name = some f)
    (h : foldFields rec vis fs = .ok (d, vis')) : fitsDict strict env d all = true := by
  induction fs generalizing vis d with
  | nil => cases h; unfold fitsDict; rfl
  | cons f r ih =>
    obtain ⟨v, vis1, d', h1, h2, rfl⟩ := foldFields_cons_ok.mp h
    unfold fitsDict
    rw [hfind f List.mem_cons_self, Bool.and_eq_true]
    exact ⟨hrec h1, ih (fun g hg => hfind g (List.mem_cons_of_mem _ hg)) h2⟩

theorem fits_dnil_msg (env : Env) (id : Nat) (rep : Bool) : fits false env .dnil (.msg id) rep = true := by
  cases rep <;> unfold fits
  · unfold fitsOne; rfl
  · rfl

theorem fitsOne_dcons {strict : Bool} {env : Env} {id : Nat} {m : MsgDef} {k : Str} {v r : PyVal}
    (hget : env[id]? = some m) : fitsOne strict env (.dcons k v r) (.msg id) =
      if m.isAny then true else fitsDict strict env (.dcons k v r) m.fields := by
  unfold fitsOne; rw [hget]

theorem Elem.of_fitsDict {strict : Bool} {env : Env} {id : Nat} {m : MsgDef} {d : PyVal} (hget : env[id]? = some m)
    (hany : m.isAny = false) (h : fitsDict strict env d m.fields = true) : Elem strict env d (.msg id) := by
  cases d with
  | dnil => exact ⟨rfl, by unfold fitsOne; rfl⟩
  | dcons k v r => exact ⟨rfl, by rw [fitsOne_dcons hget, hany]; exact h⟩
  | _ => unfold fitsDict at h; cases h

theorem fits_wrapRepeated {strict : Bool} {env : Env} {v : PyVal} {ty : FType} (rep : Bool) (h : Elem strict env v ty) :
    fits strict env (wrapRepeated rep v) ty rep = true := by
  cases rep
  · unfold fits; exact h.2
  · show fits strict env (.lcons v .lnil) ty true = true
    unfold fits fitsList fitsList
    rw [h.1, h.2]; rfl

theorem mockOrigF_fits {env : Env} (hdn : distinctNames env = true) {fuel : Nat} {vis : List Nat} {f : Field}
    {v : PyVal} {vis' : List Nat} (h : mockOrigF fuel env vis f = .ok (v, vis')) :
    fits false env v f.ty f.repeated = true := by
  induction fuel generalizing vis f v vis' with
  | zero => cases h
  | succ fuel ih =>
    unfold mockOrigF at h
    split at h
    next id hty =>
      rw [hty]
      split at h
      · cases h
      next m hget =>
      -- `by_cases` and `rw … at h`: `split at h` on the unfolded body is much slower to check
      by_cases hvis : m.cls ∈ vis
      · rw [if_pos hvis] at h; cases h; exact fits_dnil_msg env id f.repeated
      by_cases hmap : (f.repeated && m.isMap) = true
      · rw [if_neg hvis, if_pos hmap] at h; cases h; exact fits_dnil_msg env id f.repeated
      by_cases hany : m.isAny = true
      · rw [if_neg hvis, if_neg hmap, if_pos hany] at h
        cases h
        exact fits_wrapRepeated _ ⟨rfl, by rw [anyDict, fitsOne_dcons hget, if_pos hany]⟩
      · rw [if_neg hvis, if_neg hmap, if_neg hany] at h
        split at h
        · cases h
        next d vis2 hfold =>
        cases h
        have hnd := distinctNames_fields hdn (List.mem_of_getElem? hget)
        exact fits_wrapRepeated _ (.of_fitsDict hget (Bool.not_eq_true _ ▸ hany)
          (foldFields_fits ih (fun _ => findField_of_mem hnd) hfold))
    next ident vals hty =>
      rw [hty]
      split at h
      · cases h
      next n hn =>
      cases h
      obtain ⟨w, hw, hwn⟩ := (enumMockNumber_spec hn).1
      exact fits_wrapRepeated _ ⟨rfl, by unfold fitsOne; exact List.any_eq_true.mpr ⟨w, hw, decide_eq_true hwn⟩⟩
    next t hty =>
      rw [hty]
      have hp := fun k => Elem.of_primFits false env (primFits_primitiveMock t f.name k)
      split at h
      next hr =>
        cases h
        rw [hr, orNone_truthy (primitiveMock_suffix_truthy t f.name 1 (by decide)),
          orNone_truthy (primitiveMock_suffix_truthy t f.name 2 (by decide))]
        unfold fits fitsList fitsList fitsList
        rw [(hp 1).1, (hp 1).2, (hp 2).1, (hp 2).2]; rfl
      next hr =>
        cases h
        rw [Bool.not_eq_true] at hr
        rw [hr]
        unfold fits orNone
        split
        · exact (hp 0).2
        · unfold fitsOne; rfl

/-! ### `mock_value`: where the first-field chain has no value -/

section Branches
variable {rec : Field → Except MockErr MockExpr} {env : Env} {c : Nat} {vis : List Field} {f : Field}
  {id : Nat} {m : MsgDef} {e : MockErr}

/-- a message field whose first field has no value has none -/
theorem chainF_msg_error {sub : Field} {rest : List Field} (hty : f.ty = .msg id) (hget : env[id]? = some m)
    (hmap : (f.repeated && m.isMap) = false) (hfs : m.fields = sub :: rest) (hvis : f ∉ vis)
    (h : chainF rec env c (f :: vis) sub = .error e) : chainF rec env (c + 1) vis f = .error e := by
  simp only [chainF, hty, hget, hmap, hfs, hvis, h, Bool.false_eq_true, if_false]

/-- a map field whose value field has no value has none -/
theorem chainF_map_error {kf vf : Field} (hty : f.ty = .msg id) (hget : env[id]? = some m)
    (hmap : (f.repeated && m.isMap) = true) (hkf : findField m.fields "key".toList = some kf)
    (hvf : findField m.fields "value".toList = some vf) (hk : rec kf = .error e ∨ ∃ k, rec kf = .ok k)
    (hv : rec vf = .error e) : chainF rec env (c + 1) vis f = .error e := by
  rcases hk with hk | ⟨k, hk⟩ <;> simp only [chainF, hty, hget, hmap, hkf, hvf, hk, hv, if_true]

end Branches

/-! ### `mock_value`: a larger recursion depth never changes a value already obtained -/

def OkLe {α : Type} (a b : Except MockErr α) : Prop := ∀ e, a = .ok e → b = .ok e

theorem OkLe.rfl {α : Type} {a : Except MockErr α} : OkLe a a := fun _ h => h

theorem chainF_mono {rec rec' : Field → Except MockErr MockExpr} (h : ∀ f, OkLe (rec f) (rec' f))
    (env : Env) (c : Nat) (vis : List Field) (f : Field) : OkLe (chainF rec env c vis f) (chainF rec' env c vis f) := by
  induction c generalizing vis f with
  | zero => intro e he; cases he
  | succ c ih =>
    -- only the map branch consults `rec` and only the constructor branch recurses: elsewhere both sides are one term
    unfold chainF
    split
    · exact .rfl
    · exact .rfl
    split
    · exact .rfl
    split
    · split
      next kf vf _ _ =>
        intro e
        cases hrk : rec kf <;> cases hrv : rec vf <;> intro he <;> cases he
        rw [h kf _ hrk, h vf _ hrv]
      · exact .rfl
    split
    · exact .rfl
    split
    · exact .rfl
    next sub _ _ _ =>
      intro e
      cases hc : chainF rec env c (f :: vis) sub <;> intro he <;> cases he
      rw [ih (f :: vis) sub _ hc]

theorem mockValueF_mono (d : Nat) (env : Env) (f : Field) : OkLe (mockValueF d env f) (mockValueF (d + 1) env f) := by
  induction d generalizing f with
  | zero => intro e h; cases h
  | succ d ih => exact chainF_mono ih env _ [] f

end GapicModel.Lemmas.C13Mock
