import GapicModel.Pinned.Tables
/-
The bridged tables `RESERVED_NAMES`, `keyword.kwlist`, `invalid_module_names`, `TRANSPORT_UNSAFE_NAMES` as explicit character
lists, and the finite facts about them, each decided ONCE.  Lean 4.33 keeps a `String` as a UTF-8 byte array, and the kernel
evaluates `String.toList`, `==`, `++` on it at a price quadratic in its length; on explicit character lists the same facts
cost a hundredth.  The models read the tables as `List String` with `∈` / `contains`, or as `….map String.toList`:
`reserved_eq` … and `mem_map_toList` / `contains_eq` / `contains_ofList` carry the facts there.
-/
namespace GapicModel.Tables

theorem mem_map_toList {tbl : List String} {s : String} : s.toList ∈ tbl.map String.toList ↔ s ∈ tbl :=
  ⟨fun h => by obtain ⟨t, ht, e⟩ := List.mem_map.mp h; exact String.toList_injective e ▸ ht, List.mem_map_of_mem⟩

theorem contains_eq (tbl : List String) (s : String) : tbl.contains s = (tbl.map String.toList).contains s.toList := by
  rw [Bool.eq_iff_iff, List.contains_iff_mem, List.contains_iff_mem, mem_map_toList]

theorem contains_ofList (tbl : List String) (s : List Char) :
    tbl.contains (String.ofList s) = (tbl.map String.toList).contains s := by
  rw [contains_eq, String.toList_ofList]

theorem toList_suffixed (w : String) : (w ++ "_").toList = w.toList ++ ['_'] := by
  rw [String.toList_append, String.toList_ofList]

/-! The value of each `…Spec` is whatever the rewriting of the literals by `String.toList_ofList` produces — the table as
explicit character lists — so the words are not written a second time.  (`-index`: the discrimination tree does not see
`String.ofList` inside a literal; the unifier does.) -/

def reservedSpec : {l : List (List Char) // Pinned.reservedNames.map String.toList = l} := by
  apply Subtype.mk; unfold Pinned.reservedNames; simp -index only [List.map, String.toList_ofList]; rfl
def keywordsSpec : {l : List (List Char) // Pinned.pyKeywords.map String.toList = l} := by
  apply Subtype.mk; unfold Pinned.pyKeywords; simp -index only [List.map, String.toList_ofList]; rfl
def invalidModuleExtraSpec : {l : List (List Char) // Pinned.invalidModuleExtra.map String.toList = l} := by
  apply Subtype.mk; unfold Pinned.invalidModuleExtra; simp -index only [List.map, String.toList_ofList]; rfl
def unsafeExtraSpec : {l : List (List Char) // Pinned.transportUnsafeExtra.map String.toList = l} := by
  apply Subtype.mk; unfold Pinned.transportUnsafeExtra; simp -index only [List.map, String.toList_ofList]; rfl

def reserved : List (List Char) := reservedSpec.1
def keywords : List (List Char) := keywordsSpec.1
def invalidModuleExtra : List (List Char) := invalidModuleExtraSpec.1
def unsafeExtra : List (List Char) := unsafeExtraSpec.1

theorem reserved_eq : Pinned.reservedNames.map String.toList = reserved := reservedSpec.2
theorem keywords_eq : Pinned.pyKeywords.map String.toList = keywords := keywordsSpec.2
theorem invalidModuleExtra_eq : Pinned.invalidModuleExtra.map String.toList = invalidModuleExtra := invalidModuleExtraSpec.2
theorem unsafeExtra_eq : Pinned.transportUnsafeExtra.map String.toList = unsafeExtra := unsafeExtraSpec.2

/-- both tables are sorted, so one pass over them decides this -/
theorem keywords_sublist_reserved : keywords.Sublist reserved := by decide +kernel

/-- the one reserved name that ends in an underscore is `__peg_parser__`, and `__peg_parser_` is not reserved -/
theorem reserved_dropLast : ∀ w ∈ reserved, w.getLast? = some '_' → w.dropLast ∉ reserved := by decide +kernel

theorem reserved_no_dot : ∀ w ∈ reserved, '.' ∉ w := by decide +kernel
theorem reserved_no_dash : ∀ w ∈ reserved, '-' ∉ w := by decide +kernel
theorem keywords_no_underscore : ∀ w ∈ keywords, '_' ∉ w := by decide +kernel
theorem unsafeExtra_no_underscore : ∀ w ∈ unsafeExtra, '_' ∉ w := by decide +kernel

/-- `__init__` is the one invalid module name that ends in an underscore, and `__init_` is not one -/
theorem invalidModule_dropLast :
    ∀ w ∈ keywords ++ invalidModuleExtra, w.getLast? = some '_' → w.dropLast ∉ keywords ++ invalidModuleExtra := by
  decide +kernel

/-- the form in which "no word of the table is another one plus `_`" is decided: only the words that end in `_` are looked up -/
theorem suffixed_not_mem {tbl : List (List Char)} (hd : ∀ w ∈ tbl, w.getLast? = some '_' → w.dropLast ∉ tbl)
    {w : List Char} (h : w ∈ tbl) : w ++ ['_'] ∉ tbl :=
  fun h' => hd _ h' (by simp) (by simpa using h)

theorem suffixed_not_reserved {w : List Char} (h : w ∈ reserved) : w ++ ['_'] ∉ reserved :=
  suffixed_not_mem reserved_dropLast h

theorem mem_reserved {w : String} : w.toList ∈ reserved ↔ w ∈ Pinned.reservedNames := reserved_eq ▸ mem_map_toList
theorem mem_keywords {w : String} : w.toList ∈ keywords ↔ w ∈ Pinned.pyKeywords := keywords_eq ▸ mem_map_toList
theorem mem_invalidModule {w : String} :
    w.toList ∈ keywords ++ invalidModuleExtra ↔ w ∈ Pinned.pyKeywords ++ Pinned.invalidModuleExtra := by
  rw [← keywords_eq, ← invalidModuleExtra_eq, ← List.map_append, mem_map_toList]

theorem keyword_mem_reserved {w : String} (h : w ∈ Pinned.pyKeywords) : w ∈ Pinned.reservedNames :=
  mem_reserved.mp (keywords_sublist_reserved.subset (mem_keywords.mpr h))

theorem suffixed_not_mem_reserved {w : String} (h : w ∈ Pinned.reservedNames) : w ++ "_" ∉ Pinned.reservedNames :=
  fun h' => suffixed_not_reserved (mem_reserved.mpr h) (toList_suffixed w ▸ mem_reserved.mpr h')

theorem suffixed_not_mem_invalidModule {w : String} (h : w ∈ Pinned.pyKeywords ++ Pinned.invalidModuleExtra) :
    w ++ "_" ∉ Pinned.pyKeywords ++ Pinned.invalidModuleExtra :=
  fun h' => suffixed_not_mem invalidModule_dropLast (mem_invalidModule.mpr h) (toList_suffixed w ▸ mem_invalidModule.mpr h')

/-- the renaming every model of `Field.name` / `_fix_name_segment` applies, one underscore on a reserved word, never yields a
reserved word … -/
theorem suffix_reserved_not_reserved (w : String) :
    Pinned.reservedNames.contains (if Pinned.reservedNames.contains w then w ++ "_" else w) = false := by
  split
  · rename_i h
    exact Bool.eq_false_iff.mpr fun h' => suffixed_not_mem_reserved (List.contains_iff_mem.mp h) (List.contains_iff_mem.mp h')
  · exact Bool.eq_false_iff.mpr ‹_›

/-- … nor, every keyword being reserved, a keyword -/
theorem suffix_reserved_not_keyword (w : String) :
    Pinned.pyKeywords.contains (if Pinned.reservedNames.contains w then w ++ "_" else w) = false :=
  Bool.eq_false_iff.mpr fun h => Bool.eq_false_iff.mp (suffix_reserved_not_reserved w)
    (List.contains_iff_mem.mpr (keyword_mem_reserved (List.contains_iff_mem.mp h)))

end GapicModel.Tables
