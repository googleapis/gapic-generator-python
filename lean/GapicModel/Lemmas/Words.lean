import GapicModel.Model.Wrap
import GapicModel.Lemmas.Split
import GapicModel.Lemmas.MapRuns
/-
C20 — the "words" of a text (`str.split()`: maximal runs of non-whitespace) and the contextual
equivalence "same words in every context" that the proof of `wrap_words_preserved` is carried out in: an instance of
the equivalence "same observation `f` in every context" (`CodeLines.Ctx`), which Lemmas/CodeLines.lean uses for
`fix_whitespace`.
-/
namespace GapicModel.Lemmas.CodeLines

abbrev Str := List Char

def Ctx {β} (f : Str → β) (a b : Str) : Prop := ∀ pre post, f (pre ++ a ++ post) = f (pre ++ b ++ post)

theorem Ctx.refl {β} (f : Str → β) (a : Str) : Ctx f a a := fun _ _ => rfl
theorem Ctx.symm {β} {f : Str → β} {a b : Str} (h : Ctx f a b) : Ctx f b a := fun p q => (h p q).symm
theorem Ctx.trans {β} {f : Str → β} {a b c : Str} (h1 : Ctx f a b) (h2 : Ctx f b c) : Ctx f a c :=
  fun p q => (h1 p q).trans (h2 p q)
theorem Ctx.eq {β} {f : Str → β} {a b : Str} (h : Ctx f a b) : f a = f b := by simpa using h [] []
theorem Ctx.append {β} {f : Str → β} {a a' b b' : Str} (h1 : Ctx f a a') (h2 : Ctx f b b') : Ctx f (a ++ b) (a' ++ b') := by
  intro p q
  have e1 := h1 p (b ++ q)
  have e2 := h2 (p ++ a') q
  simp only [List.append_assoc] at e1 e2 ⊢
  rw [e1, e2]
theorem Ctx.cons {β} {f : Str → β} {a b : Str} (c : Char) (h : Ctx f a b) : Ctx f (c :: a) (c :: b) :=
  Ctx.append (Ctx.refl f [c]) h

end GapicModel.Lemmas.CodeLines

namespace GapicModel.Lemmas.Words
open GapicModel.Regex GapicModel.Model.Wrap
open GapicModel.Lemmas.MapRuns (AllWs)
open GapicModel.Lemmas.CodeLines (Ctx)

/-! `Model.Wrap.splitOn` / `joinWith` are core's `List.splitOn` / `List.intercalate` -/

theorem splitOn_eq (sep : Char) : ∀ s : Str, Model.Wrap.splitOn sep s = s.splitOn sep
  | [] => rfl
  | c :: cs => by
    obtain ⟨h, t, e⟩ := List.exists_cons_of_ne_nil (List.splitOn_ne_nil sep cs)
    simp only [Model.Wrap.splitOn, Split.splitOn_cons, splitOn_eq sep cs, e]; rfl

theorem joinWith_eq : @Model.Wrap.joinWith = @List.intercalate Char := by
  funext sep xs
  induction xs using Model.Wrap.joinWith.induct <;> simp_all [Model.Wrap.joinWith]

theorem isBlank_iff {t} (c : Str) : isBlank t c = true ↔ AllWs (isWs t) c := by
  simp [isBlank]

/-- `str.split()` with the current word (reversed) as accumulator -/
def wordsAux (t : ClassTables) : Str → Str → List Str
  | [], cur => if cur = [] then [] else [cur.reverse]
  | c :: cs, cur =>
    if isWs t c then (if cur = [] then wordsAux t cs [] else cur.reverse :: wordsAux t cs [])
    else wordsAux t cs (c :: cur)

/-- `s.split()` -/
def words (t : ClassTables) (s : Str) : List Str := wordsAux t s []

theorem wordsAux_append_ws (t) (w : Char) (hw : isWs t w = true) (b a cur : Str) :
    wordsAux t (a ++ w :: b) cur = wordsAux t a cur ++ words t b := by
  fun_induction wordsAux t a cur <;> simp_all [wordsAux, words]

theorem words_append_ws (t) (a : Str) (w : Char) (hw : isWs t w = true) (b : Str) :
    words t (a ++ w :: b) = words t a ++ words t b := wordsAux_append_ws t w hw b a []

theorem words_nil (t) : words t [] = [] := rfl

theorem words_cons_ws (t) (w : Char) (hw : isWs t w = true) (b : Str) : words t (w :: b) = words t b :=
  words_append_ws t [] w hw b

theorem words_snoc_ws (t) (a : Str) (w : Char) (hw : isWs t w = true) : words t (a ++ [w]) = words t a :=
  (words_append_ws t a w hw []).trans (List.append_nil _)

theorem words_blank_append (t) (b : Str) (hb : AllWs (isWs t) b) (c : Str) : words t (b ++ c) = words t c := by
  induction b with
  | nil => rfl
  | cons x b ih =>
    rw [List.cons_append, words_cons_ws t x (hb x (by simp))]
    exact ih (fun y hy => hb y (by simp [hy]))

theorem words_blank (t) (b : Str) (hb : AllWs (isWs t) b) : words t b = [] := by
  simpa [words_nil] using words_blank_append t b hb []

theorem words_append_blank (t) (a b : Str) (hb : AllWs (isWs t) b) : words t (a ++ b) = words t a := by
  cases b with
  | nil => simp
  | cons x b =>
    rw [words_append_ws t a x (hb x (by simp)), words_blank t b (fun y hy => hb y (by simp [hy]))]; simp

theorem words_append_blank_append (t) (a b c : Str) (hb : AllWs (isWs t) b) (hne : b ≠ []) :
    words t (a ++ b ++ c) = words t a ++ words t c := by
  cases b with
  | nil => exact absurd rfl hne
  | cons x b =>
    rw [List.append_assoc, List.cons_append, words_append_ws t a x (hb x (by simp)),
      words_blank_append t b (fun y hy => hb y (by simp [hy]))]

theorem words_append_of_last_ws (t) (a b : Str) (w : Char) (h : a.getLast? = some w) (hw : isWs t w = true) :
    words t (a ++ b) = words t a ++ words t b := by
  obtain ⟨a', rfl⟩ := List.getLast?_eq_some_iff.mp h
  rw [List.append_assoc, List.singleton_append, words_append_ws t a' w hw, words_snoc_ws t a' w hw]

theorem wordsAux_flatten (t) (s cur : Str) :
    (wordsAux t s cur).flatten = cur.reverse ++ s.filter (fun c => !isWs t c) := by
  fun_induction wordsAux t s cur <;> simp_all

theorem words_flatten (t) (s : Str) : (words t s).flatten = s.filter (fun c => !isWs t c) := by
  simpa [words] using wordsAux_flatten t s []

theorem mem_of_words_eq {t} {a b : Str} (h : words t a = words t b) (c : Char) (hc : isWs t c = false) (hm : c ∈ a) : c ∈ b := by
  have h1 : c ∈ a.filter (fun c => !isWs t c) := List.mem_filter.mpr ⟨hm, by simp [hc]⟩
  rw [← words_flatten, h, words_flatten] at h1
  exact (List.mem_filter.mp h1).1

/-- `a` and `b` have the same words in every context: `Ctx (words t) a b` written out, so the `Ctx` lemmas apply to it as
they stand -/
def Eqv (t : ClassTables) (a b : Str) : Prop := ∀ pre post, words t (pre ++ a ++ post) = words t (pre ++ b ++ post)

theorem Eqv.symm {t} {a b : Str} (h : Eqv t a b) : Eqv t b a := Ctx.symm (f := words t) h

theorem Eqv.blank {t} {b b' : Str} (hb : AllWs (isWs t) b) (hb' : AllWs (isWs t) b') (hne : b ≠ []) (hne' : b' ≠ []) : Eqv t b b' := by
  intro p q
  rw [words_append_blank_append t p b q hb hne, words_append_blank_append t p b' q hb' hne']

end GapicModel.Lemmas.Words
