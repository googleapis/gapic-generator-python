import GapicModel.Model.Imports
import GapicModel.Pinned.Templates
import GapicModel.Lemmas.Emit
/-
Helper lemmas of Props/C01 about `Model/Imports.lean`: the options as `imports` reads them, the closed form of `emitted`,
list arithmetic of `resolveRel`, the layout of the service directory, membership in `renders`, the scan of `empty`.
-/
namespace GapicModel.Lemmas.C01Imports
open GapicModel.Model.Emit GapicModel.Model.Transports GapicModel.Model.Imports GapicModel.Lemmas.Emit

def optsOf (g r a : Bool) : Opts := ⟨(if g then [grpc] else []) ++ (if r then [rest] else []), false, a, false⟩

theorem optsOf_reads (g r a : Bool) :
    (optsOf g r a).transport.contains grpc = g ∧ (optsOf g r a).transport.contains rest = r ∧ (optsOf g r a).restAsync = a := by
  cases g <;> cases r <;> exact ⟨rfl, rfl, rfl⟩

/-- `imports` reads the options only through (grpc listed, rest listed, async REST) -/
theorem imports_optsOf (o : Opts) (paged : Bool) (m : SMod) :
    imports o paged m = imports (optsOf (o.transport.contains grpc) (o.transport.contains rest) o.restAsync) paged m := by
  cases m <;> simp only [imports, optsOf_reads]

/-- the closed form of `emitted`: which service-level modules are in the response -/
def emittedT (g r a paged : Bool) : SMod → Bool
  | .init | .client | .tInit | .base | .gapicVersion => true
  | .asyncClient => g || a
  | .pagers => paged
  | .grpc | .grpcAsyncio => g
  | .rest | .restBase => r
  | .restAsyncio => r && a

theorem dropLastN_append {α} (k : Nat) (d x : List α) (h : k ≤ x.length) :
    dropLastN k (d ++ x) = d ++ dropLastN k x := by
  unfold dropLastN
  rw [List.length_append, Nat.add_sub_assoc h, List.take_length_add_append]

/-- a relative import that does not climb above the directory `d` resolves below `d` -/
theorem resolveRel_prefix (d r : Path) (n : Nat) (p : Path) (h : n ≤ r.length) (hn : 1 ≤ n) :
    resolveRel (d ++ r) n p = d ++ resolveRel r n p := by
  unfold resolveRel
  have hr : r ≠ [] := List.ne_nil_of_length_pos (by omega)
  rw [List.dropLast_append_of_ne_nil hr, dropLastN_append (n - 1) d r.dropLast (by simp; omega), List.append_assoc]

theorem emptyScan_comment_line (l : Str) (hn : '\n' ∉ l) : emptyScan true l = true := by
  induction l with
  | nil => rfl
  | cons c cs ih =>
    obtain ⟨hc, hcs⟩ := List.ne_and_not_mem_of_not_mem_cons hn
    simp [emptyScan, Ne.symm hc, ih hcs]

theorem emptyScan_append_newline (st : Bool) (a b : Str) :
    emptyScan st (a ++ '\n' :: b) = (emptyScan st a && emptyScan false b) := by
  induction a generalizing st with
  | nil => simp [emptyScan]
  | cons c cs ih =>
    -- every branch of the scan is a recursive call, which `ih` splits, or `false`: push `&& emptyScan false b` into the branches
    simp only [List.cons_append, emptyScan, ih, apply_ite (· && emptyScan false b), Bool.false_and]

theorem emptyScan_line (l : Str) (hn : '\n' ∉ l) : emptyScan false l = blankOrComment l := by
  induction l with
  | nil => rfl
  | cons c cs ih =>
    obtain ⟨hc, hcs⟩ := List.ne_and_not_mem_of_not_mem_cons hn
    simp only [emptyScan, Ne.symm hc, if_false, Bool.false_eq_true, blankOrComment, PyRt.lstrip, List.dropWhile_cons]
    by_cases h2 : PyRt.isWs c = true
    · simpa [h2, blankOrComment, PyRt.lstrip] using ih hcs
    · by_cases h3 : c = '#'
      · subst h3
        simp [h2, emptyScan_comment_line cs hcs]
      · simp [h2, h3]

/-- the output file of a service-level module -/
def fileOf (nm : Naming) (view : Path) (s : Str) (m : SMod) : Path :=
  getFilename ⟨nm, view, some s, none⟩ (parseTemplate m.template)

/-- the directory of a service's package, as template segments -/
def svcDirT : TPath := [[.var .ns], [.var .nameVersion], [.var .sub], [.lit ['s', 'e', 'r', 'v', 'i', 'c', 'e', 's']], [.var .service]]

/-- the templates of all twelve modules are in the pinned list.  Checked as a sublist, the modules in the order of the
list, so that each row is compared with one template only (they share their first 49 characters) -/
theorem template_mem (m : SMod) : m.template ∈ Pinned.templatesChars :=
  (by decide +kernel : List.Sublist ([SMod.init, .asyncClient, .client, .pagers, .tInit, .base, .grpc, .grpcAsyncio, .rest,
    .restAsyncio, .restBase, .gapicVersion].map SMod.template) Pinned.templatesChars).mem
    (List.mem_map_of_mem (by cases m <;> decide))

/-- what `renders` reads off the pinned template of a service-level module, evaluated once per module: no rule on the
template name drops it, and it is the service directory followed by the literal path `m.rel` -/
theorem template_facts (m : SMod) (hm : m ≠ .gapicVersion) :
    alwaysOn m.template = true ∧ parseTemplate m.template = svcDirT ++ m.rel.map (fun x => [Part.lit x]) := by
  cases m <;> first | exact absurd rfl hm | decide +kernel

theorem template_vars (m : SMod) (hm : m ≠ .gapicVersion) :
    hasVar (parseTemplate m.template) .sub = true ∧ hasVar (parseTemplate m.template) .proto = false ∧
    hasVar (parseTemplate m.template) .service = true := by
  rw [(template_facts m hm).2]
  simp [hasVar, svcDirT, List.any_map]

theorem service_file_layout (nm : Naming) (view : Path) (s : Str) (m : SMod) (hm : m ≠ .gapicVersion) :
    fileOf nm view s m = getFilename ⟨nm, view, some s, none⟩ svcDirT ++ m.rel := by
  unfold fileOf
  rw [(template_facts m hm).2, getFilename_append, getFilename_lits _ _ (by cases m <;> decide)]

/-- the service `s` belongs to the API view `view` of the shape -/
def InView (sh : Shape) (view : Path) (s : Str) : Prop :=
  (view = [] ∧ s ∈ sh.root.services) ∨ ∃ sp ∈ sh.subs, sp.view = view ∧ s ∈ sp.services

theorem inView_shapeViews {sh : Shape} {view : Path} {s : Str} (h : InView sh view s) :
    ∃ sp ∈ shapeViews sh, sp.view = view ∧ s ∈ sp.services := by
  rcases h with ⟨rfl, hs⟩ | ⟨sp, hsp, hv, hs⟩
  · refine ⟨_, List.mem_append_right _ (List.mem_singleton.mpr rfl), ?_⟩
    split <;> simp [allServices, hs]
  · exact ⟨sp, List.mem_append_left _ hsp, hv, hs⟩

/-- a service-level module whose gate is open is rendered for every service of every view -/
theorem service_module_rendered (o : Opts) (sh : Shape) (view : Path) (s : Str) (m : SMod) (hm : m ≠ .gapicVersion)
    (hin : InView sh view s) (hg : serviceGate m.template o = true) :
    fileOf sh.naming view s m ∈ renders o sh Pinned.templatesChars := by
  obtain ⟨hsub, hproto, hsvc⟩ := template_vars m hm
  obtain ⟨sp, hsp, rfl, hs⟩ := inView_shapeViews hin
  refine mem_renders_of_alwaysOn (template_mem m) (template_facts m hm).1 ?_
  rw [renderTemplate_alwaysOn o sh (template_facts m hm).1 hsub]
  refine List.mem_flatMap.mpr ⟨sp, hsp, mem_renderView.mpr ?_⟩
  simp only [hproto, hsvc, if_true, if_false, Bool.false_eq_true]
  exact ⟨hg, s, hs, rfl⟩

end GapicModel.Lemmas.C01Imports
