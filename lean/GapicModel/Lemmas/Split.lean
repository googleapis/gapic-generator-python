/-
`str.split(c)` and `c.join(...)` for a one-character separator are core's `List.splitOn` and `List.intercalate`.  Six model files
(Determinism, Http, Lro, NamingOptions, Wrap, Routing's `splitDots`) and the Python run-time library each carry their own copy of these
two functions, in two recursion shapes; each of these copies is proved equal to the core function where it is used.  Here: the facts about
splitting and joining that core does not have.
-/
namespace GapicModel.Split

variable (sep : Char)

/-- the recursion of the model's copies -/
theorem splitOn_cons (c : Char) (cs : List Char) :
    (c :: cs).splitOn sep =
      if c = sep then [] :: cs.splitOn sep else (c :: (cs.splitOn sep).headD []) :: (cs.splitOn sep).tail := by
  obtain ⟨h, t, e⟩ := List.exists_cons_of_ne_nil (List.splitOn_ne_nil sep cs)
  simp [List.splitOn_cons_eq_if_modifyHead, e]

theorem append_sep_inj {a b x y : List Char} (ha : sep ∉ a) (hb : sep ∉ b) (h : a ++ sep :: x = b ++ sep :: y) :
    a = b ∧ x = y := by
  have e := congrArg (List.splitOn sep) h
  rw [List.splitOn_append_cons_self_of_not_mem ha, List.splitOn_append_cons_self_of_not_mem hb] at e
  obtain rfl := (List.cons.inj e).1
  exact ⟨rfl, by simpa using h⟩

/-- appending text without the separator only extends the last piece -/
theorem splitOn_append_of_not_mem {b : List Char} (hb : sep ∉ b) : ∀ a : List Char,
    ∃ init last, a.splitOn sep = init ++ [last] ∧ (a ++ b).splitOn sep = init ++ [last ++ b]
  | [] => ⟨[], [], rfl, by simp [List.splitOn_eq_singleton hb]⟩
  | c :: a => by
    obtain ⟨init, last, h1, h2⟩ := splitOn_append_of_not_mem hb a
    rw [List.cons_append, List.splitOn_cons_eq_if_modifyHead, List.splitOn_cons_eq_if_modifyHead, h1, h2]
    split
    · exact ⟨[] :: init, last, rfl, rfl⟩
    · cases init with
      | nil => exact ⟨[], c :: last, rfl, rfl⟩
      | cons x xs => exact ⟨(c :: x) :: xs, last, rfl, rfl⟩

theorem of_mem_splitOn {s x : List Char} (h : x ∈ s.splitOn sep) : sep ∉ x ∧ ∀ c ∈ x, c ∈ s := by
  by_cases hs : sep ∈ s
  · obtain ⟨a, b, rfl, ha⟩ := List.eq_append_cons_of_mem hs
    rw [List.splitOn_append_cons_self_of_not_mem ha] at h
    rcases List.mem_cons.mp h with rfl | h
    · exact ⟨ha, fun c hc => List.mem_append_left _ hc⟩
    · have ih := of_mem_splitOn h
      exact ⟨ih.1, fun c hc => List.mem_append_right _ (List.mem_cons_of_mem _ (ih.2 c hc))⟩
  · rw [List.splitOn_eq_singleton hs, List.mem_singleton] at h
    exact h.symm ▸ ⟨hs, fun _ hc => hc⟩
termination_by s.length
decreasing_by subst_vars; simp only [List.length_append, List.length_cons]; omega

theorem intercalate_nil_left : ∀ xs : List (List Char), [].intercalate xs = xs.flatten
  | [] => rfl
  | [a] => by simp
  | a :: b :: r => by simp [intercalate_nil_left (b :: r)]

/-- `sep.join(xs).split(sep)` is the pieces of the members of `xs`, in order -/
theorem splitOn_intercalate_flatMap : ∀ {xs : List (List Char)}, xs ≠ [] →
    ([sep].intercalate xs).splitOn sep = xs.flatMap (List.splitOn sep)
  | [a], _ => by simp
  | a :: b :: r, _ => by
    rw [List.intercalate_cons_cons, List.append_assoc, List.singleton_append, List.splitOn_append_cons_self,
      splitOn_intercalate_flatMap (List.cons_ne_nil b r)]
    rfl

/-- the first piece of `s.split(sep)` is `s` up to its first separator -/
theorem splitOn_head (s : List Char) : ∃ L tl, s = L ++ tl ∧ (s.splitOn sep).headD [] = L ∧ sep ∉ L ∧
    (tl = [] ∨ ∃ R, tl = sep :: R) := by
  by_cases hs : sep ∈ s
  · obtain ⟨a, b, rfl, ha⟩ := List.eq_append_cons_of_mem hs
    exact ⟨a, _, rfl, by rw [List.splitOn_append_cons_self_of_not_mem ha]; rfl, ha, Or.inr ⟨b, rfl⟩⟩
  · exact ⟨s, [], by simp, by rw [List.splitOn_eq_singleton hs]; rfl, hs, Or.inl rfl⟩

theorem head?_splitOn_append_sep (a b : List Char) : ((a ++ sep :: b).splitOn sep).head? = (a.splitOn sep).head? := by
  obtain ⟨h, t, e⟩ := List.exists_cons_of_ne_nil (List.splitOn_ne_nil sep a)
  simp [List.splitOn_append_cons_self, e]

theorem flatten_map_snoc : ∀ {xs : List (List Char)}, xs ≠ [] → (xs.map (· ++ [sep])).flatten = [sep].intercalate xs ++ [sep]
  | [a], _ => by simp
  | a :: b :: r, _ => by
    have ih := flatten_map_snoc (List.cons_ne_nil b r)
    simp only [List.map_cons, List.flatten_cons, List.intercalate_cons_cons, List.append_assoc] at ih ⊢
    rw [ih]

end GapicModel.Split
