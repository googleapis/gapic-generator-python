import GapicModel.Lemmas.RegexSound
/-
Syntactic (decidable) checks on a pattern and what each guarantees of every run, for every subject.
`groupsOf`, `mustCap`: every recorded capture belongs to a group of the pattern and is text that group's body matched, and
a group on every path of the pattern is always recorded (`Run.caps_spec`; for `re.search`: `search_group`).
`atomsOk`: a pattern whose consuming atoms accept only characters with some property consumes only such characters
(`Run.chars`; `safeRe`: none of a list `bad`).  `consumesOne`: a pattern with a mandatory consuming atom consumes
something (`Run.rest_lt`), so a group with such a body captures a non-empty string.
-/
namespace GapicModel.Regex

/-- all capturing groups of a pattern with their bodies (groups inside look-around are not run by `Run`) -/
def groupsOf : Re → List (Nat × Re)
  | .seq a b => groupsOf a ++ groupsOf b
  | .alt a b => groupsOf a ++ groupsOf b
  | .star r _ => groupsOf r
  | .group i r => (i, r) :: groupsOf r
  | _ => []

/-- `w` is text some run of `body` consumed -/
def Matches (t : ClassTables) (body : Re) (w : List Char) : Prop :=
  ∃ s1 s2, Run t body s1 s2 ∧ capture s1 s2 = w

/-- group `i` lies on every path through the pattern -/
def mustCap (i : Nat) : Re → Bool
  | .seq a b => mustCap i a || mustCap i b
  | .alt a b => mustCap i a && mustCap i b
  | .group j r => j == i || mustCap i r
  | _ => false

theorem Run.caps_spec {t : ClassTables} {r : Re} {s s' : St} (h : Run t r s s') :
    ∃ added, s'.caps = added ++ s.caps ∧
      (∀ p ∈ added, ∃ body, (p.1, body) ∈ groupsOf r ∧ Matches t body p.2) ∧
      (∀ i, mustCap i r = true → ∃ w, (i, w) ∈ added) := by
  -- the second part passes from the groups of a subpattern to those of the pattern
  have mono : ∀ {added : List (Nat × List Char)} {gs gs' : List (Nat × Re)}, gs ⊆ gs' →
      (∀ p ∈ added, ∃ body, (p.1, body) ∈ gs ∧ Matches t body p.2) →
      ∀ p ∈ added, ∃ body, (p.1, body) ∈ gs' ∧ Matches t body p.2 :=
    fun hsub hp p hm => (hp p hm).imp fun _ hb => ⟨hsub hb.1, hb.2⟩
  induction h with
  | seq a b s s1 s2 _ _ ih1 ih2 =>
    obtain ⟨a1, e1, p1, m1⟩ := ih1
    obtain ⟨a2, e2, p2, m2⟩ := ih2
    refine ⟨a2 ++ a1, by rw [e2, e1, List.append_assoc], List.forall_mem_append.mpr
      ⟨mono (List.subset_append_right ..) p2, mono (List.subset_append_left ..) p1⟩, fun i hi => ?_⟩
    rcases (Bool.or_eq_true ..).mp hi with hi | hi
    · exact (m1 i hi).imp fun w => List.mem_append_right a2
    · exact (m2 i hi).imp fun w => List.mem_append_left a1
  | altL a b s s1 _ ih =>
    obtain ⟨a1, e1, p1, m1⟩ := ih
    exact ⟨a1, e1, mono (List.subset_append_left ..) p1, fun i hi => m1 i ((Bool.and_eq_true ..).mp hi).1⟩
  | altR a b s s1 _ ih =>
    obtain ⟨a1, e1, p1, m1⟩ := ih
    exact ⟨a1, e1, mono (List.subset_append_right ..) p1, fun i hi => m1 i ((Bool.and_eq_true ..).mp hi).2⟩
  | starS r g s s1 s2 _ _ _ ih1 ih2 =>
    obtain ⟨a1, e1, p1, _⟩ := ih1
    obtain ⟨a2, e2, p2, _⟩ := ih2
    exact ⟨a2 ++ a1, by rw [e2, e1, List.append_assoc], List.forall_mem_append.mpr ⟨p2, p1⟩, fun _ => Bool.noConfusion⟩
  | group i r s s1 hr ih =>
    obtain ⟨a1, e1, p1, m1⟩ := ih
    refine ⟨(i, capture s s1) :: a1, congrArg _ e1, List.forall_mem_cons.mpr
      ⟨⟨r, .head _, s, s1, hr, rfl⟩, mono (List.subset_cons_self ..) p1⟩, fun j hj => ?_⟩
    rcases (Bool.or_eq_true ..).mp hj with hj | hj
    · exact ⟨capture s s1, beq_iff_eq.mp hj ▸ .head _⟩
    · exact (m1 j hj).imp fun w => .tail _
  -- the other patterns hold no group
  | _ => exact ⟨[], rfl, List.forall_mem_nil _, fun _ => Bool.noConfusion⟩

/-- `m.group(i)` of a successful search: present whenever the group lies on every path, and then text its
body matched -/
theorem search_group (t : ClassTables) (r : Re) (subj : List Char) (res : MatchRes)
    (h : pySearch t r subj = some res) (i : Nat) :
    (mustCap i r = true → (St.group? res.caps i).isSome) ∧
    (∀ w, St.group? res.caps i = some w → ∃ body, (i, body) ∈ groupsOf r ∧ Matches t body w) := by
  obtain ⟨⟨s0, st⟩, hs, rfl⟩ := Option.map_eq_some_iff.mp h
  obtain ⟨pre', rest', hm⟩ := searchFrom_some t r _ _ _ _ hs
  obtain ⟨added, hcaps, hspec, hmust⟩ := (matchAt_sound hm).caps_spec
  rw [List.append_nil] at hcaps
  simp only [hcaps]
  exact ⟨fun hm => (hmust i hm).elim fun w => group?_isSome, fun w hw => hspec (i, w) (mem_of_group?_eq_some hw)⟩

/-- every consuming atom of the pattern is a character accepted by `okc` or a positive class of items accepted by
`oki` (syntactic, decidable) -/
def atomsOk (okc : Char → Bool) (oki : CItem → Bool) : Re → Bool
  | .chr c => okc c
  | .any => false
  | .cls neg items => !neg && items.all oki
  | .seq a b => atomsOk okc oki a && atomsOk okc oki b
  | .alt a b => atomsOk okc oki a && atomsOk okc oki b
  | .star r _ => atomsOk okc oki r
  | .group _ r => atomsOk okc oki r
  | .eps | .bol | .eol | .look _ _ _ => true

theorem Run.chars {t : ClassTables} {okc : Char → Bool} {oki : CItem → Bool} {p : Char → Prop}
    (hc : ∀ c, okc c = true → p c) (hi : ∀ it d, oki it = true → it.test t d = true → p d)
    {r : Re} {s s' : St} (h : Run t r s s') (hs : atomsOk okc oki r = true) :
    ∃ w, s.rest = w ++ s'.rest ∧ s'.pre = w.reverse ++ s.pre ∧ ∀ c ∈ w, p c := by
  induction h with
  | chr c s r hr => exact ⟨[c], hr, rfl, List.forall_mem_singleton.mpr (hc c hs)⟩
  | any s d r _ _ => cases hs
  | cls neg items s d r hr ht =>
    refine ⟨[d], hr, rfl, List.forall_mem_singleton.mpr ?_⟩
    simp only [atomsOk, Bool.and_eq_true, Bool.not_eq_true', List.all_eq_true] at hs
    obtain ⟨rfl, hall⟩ := hs
    obtain ⟨it, hit, htest⟩ := List.any_eq_true.mp (by simpa [clsTest] using ht)
    exact hi it d (hall it hit) htest
  | seq a b s s1 s2 _ _ ih1 ih2 =>
    obtain ⟨w1, e1, p1, c1⟩ := ih1 ((Bool.and_eq_true ..).mp hs).1
    obtain ⟨w2, e2, p2, c2⟩ := ih2 ((Bool.and_eq_true ..).mp hs).2
    exact ⟨w1 ++ w2, by rw [e1, e2, List.append_assoc], by rw [p2, p1, List.reverse_append, List.append_assoc],
      List.forall_mem_append.mpr ⟨c1, c2⟩⟩
  | altL a b s s1 _ ih => exact ih ((Bool.and_eq_true ..).mp hs).1
  | altR a b s s1 _ ih => exact ih ((Bool.and_eq_true ..).mp hs).2
  | starS r g s s1 s2 _ _ _ ih1 ih2 =>
    obtain ⟨w1, e1, p1, c1⟩ := ih1 hs
    obtain ⟨w2, e2, p2, c2⟩ := ih2 hs
    exact ⟨w1 ++ w2, by rw [e1, e2, List.append_assoc], by rw [p2, p1, List.reverse_append, List.append_assoc],
      List.forall_mem_append.mpr ⟨c1, c2⟩⟩
  | group i r s s1 _ ih => exact ih hs
  -- the other patterns consume nothing
  | _ => exact ⟨[], rfl, rfl, List.forall_mem_nil _⟩

/-- a class item that accepts no character of `bad` (syntactic, decidable) -/
def CItem.safe (bad : List Char) : CItem → Bool
  | .ch c => !bad.contains c
  | .range lo hi => bad.all fun b => !(lo.toNat ≤ b.toNat && b.toNat ≤ hi.toNat)
  | _ => false

/-- a pattern none of whose consuming atoms accepts a character of `bad` -/
def safeRe (bad : List Char) : Re → Bool := atomsOk (fun c => !bad.contains c) (CItem.safe bad)

theorem CItem.safe_sound (t : ClassTables) (bad : List Char) (it : CItem) (d : Char)
    (hs : it.safe bad = true) (ht : it.test t d = true) : d ∉ bad := by
  cases it with
  | ch c =>
    simp only [CItem.test, beq_iff_eq] at ht
    subst ht
    simpa [CItem.safe] using hs
  | range lo hi =>
    simp only [CItem.test, Bool.and_eq_true, decide_eq_true_eq] at ht
    intro hb
    simp only [CItem.safe, List.all_eq_true] at hs
    have := hs d hb
    simp [ht.1, ht.2] at this
  | _ => cases hs

theorem Matches.safe {t : ClassTables} {bad : List Char} {body : Re} {w : List Char}
    (h : Matches t body w) (hs : safeRe bad body = true) : ∀ c ∈ w, c ∉ bad := by
  obtain ⟨s1, s2, hr, rfl⟩ := h
  obtain ⟨u, _, e, hu⟩ := hr.chars (p := (· ∉ bad)) (fun c h => by simpa using h) (CItem.safe_sound t bad) hs
  rwa [capture_eq e]

/-- every path through the pattern consumes at least one character -/
def consumesOne : Re → Bool
  | .chr _ => true
  | .any => true
  | .cls _ _ => true
  | .seq a b => consumesOne a || consumesOne b
  | .alt a b => consumesOne a && consumesOne b
  | .group _ r => consumesOne r
  | _ => false

theorem Run.rest_le {t : ClassTables} {r : Re} {s s' : St} (h : Run t r s s') : s'.rest.length ≤ s.rest.length := by
  obtain ⟨w, e, _⟩ := h.consumed
  simp [e]

theorem Run.rest_lt {t : ClassTables} {r : Re} {s s' : St} (h : Run t r s s')
    (hc : consumesOne r = true) : s'.rest.length < s.rest.length := by
  induction h with
  | chr c s r hr => simp [St.push, hr]
  | any s d r hr _ => simp [St.push, hr]
  | cls neg items s d r hr _ => simp [St.push, hr]
  | seq a b s s1 s2 h1 h2 ih1 ih2 =>
    rcases (Bool.or_eq_true ..).mp hc with hc | hc
    · exact Nat.lt_of_le_of_lt h2.rest_le (ih1 hc)
    · exact Nat.lt_of_lt_of_le (ih2 hc) h1.rest_le
  | altL a b s s1 _ ih => exact ih ((Bool.and_eq_true ..).mp hc).1
  | altR a b s s1 _ ih => exact ih ((Bool.and_eq_true ..).mp hc).2
  | group i r s s1 _ ih => exact ih hc
  | _ => cases hc

theorem Matches.nonempty {t : ClassTables} {body : Re} {w : List Char}
    (h : Matches t body w) (hs : consumesOne body = true) : w ≠ [] := by
  obtain ⟨s1, s2, hr, rfl⟩ := h
  obtain ⟨u, e, p⟩ := hr.consumed
  have := hr.rest_lt hs
  rw [capture_eq p]
  rintro rfl
  simp [e] at this

end GapicModel.Regex
