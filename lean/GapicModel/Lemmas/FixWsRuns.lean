import GapicModel.Lemmas.RegexComplete
import GapicModel.Lemmas.WsRegex
import GapicModel.Lemmas.MapRuns
/-
The three `re.sub` passes of `fix_whitespace`, characterised exactly: each is a run-local rewriting (`mapRuns`) of
the maximal whitespace runs of the text.  Soundness of the matcher gives the shape of every match it reports
(`ws#_shape`); completeness (Lemmas/RegexComplete) gives that every text of that shape is matched (`ws#_complete`), so
that a position the left-most search skipped has none of these shapes.  `subLoop_eq_mapRuns` says what these two facts
must provide for a pass to be `mapRuns h`.  The passes compose to one pass `mapRuns H`, and `H` is idempotent on every
run, which is what `MapRuns.tail_mapRuns_idem` asks for.
-/
namespace GapicModel.Lemmas.FixWsRuns
open GapicModel.Regex GapicModel.Model.Whitespace GapicModel.Lemmas.MapRuns

abbrev Str := List Char
abbrev T := Pinned.classTables
abbrev wsT : Char → Bool := isWs T

theorem ws_nl : wsT '\n' = true := by decide
theorem ws_sp : wsT ' ' = true := by decide

theorem rstrip_eq_rstripW (t : ClassTables) : rstrip t = rstripW (isWs t) := rfl

/-- the three patterns have no look-around: the matcher is complete for them -/
theorem noLook_ws : noLook ws1Re = true ∧ noLook ws2Re = true ∧ noLook ws3Re = true := by decide +kernel

/-- `re.sub(r"[ ]+\n", "\n", code)`: a match is spaces and a line break; the line break stays -/
theorem ws1_shape {pre rest st} (h : matchAt T ws1Re pre rest = some st) :
    ∃ k, rest = List.replicate (k + 1) ' ' ++ '\n' :: st.rest ∧ expand st.caps ws1Repl = ['\n'] := by
  obtain ⟨s1, h1, h2⟩ := (matchAt_sound h).seq_inv
  obtain ⟨s0, hs, e0⟩ := Run.chr_prefix h1
  obtain ⟨w, ek, k, rfl⟩ := Run.star_consumed (P := fun w => ∃ k, w = List.replicate k ' ') ⟨0, rfl⟩
    (fun h1 ⟨k, hv⟩ => ⟨[' '], Run.chr_last h1, k + 1, by rw [hv]; rfl⟩) hs
  refine ⟨k, e0.trans ?_, by simp [ws1Repl, expand]⟩
  rw [ek, Run.chr_last h2]
  rfl

theorem ws1_complete (k : Nat) (pre rest : Str) :
    (matchAt T ws1Re pre (List.replicate (k + 1) ' ' ++ '\n' :: rest)).isSome = true := by
  have g : Goes T ws1Re (([' '] ++ List.replicate k ' ') ++ ['\n']) :=
    Goes.seq (Goes.seq (Goes.chr ' ') (Goes.starChr ' ' true k)) (Goes.chr '\n')
  simpa [List.replicate_succ, List.append_assoc] using g.matchAt_isSome noLook_ws.1 pre rest

/-! ### the pieces of the other two patterns: what each consumes, read off a run (`run_…`) and exhibited (`Goes.of…`) -/

/-- the five alternatives of group 1 of the second pattern -/
def KWs : List Str := ["class".toList, "def".toList, ['@'], ['#'], ['_']]

theorem kw_nonws : ∀ kw ∈ KWs, kw ≠ [] ∧ ∀ c ∈ kw, wsT c = false := by
  unfold KWs
  simp -index only [String.toList_ofList]
  decide +kernel

theorem Goes.ofKW : ∀ kw ∈ KWs, Goes T Model.Whitespace.KW kw := by
  simp only [KWs, List.forall_mem_cons]
  exact ⟨.altL (.lits _), .altR (.altL (.lits _)), .altR (.altR (.altL (.chr '@'))),
    .altR (.altR (.altR (.altL (.chr '#')))), .altR (.altR (.altR (.altR (.chr '_')))), nofun⟩

theorem run_KW {s s' : St} (h : Run T Model.Whitespace.KW s s') : ∃ kw ∈ KWs, s.rest = kw ++ s'.rest := by
  obtain h | h := h.alt_inv
  · exact ⟨_, .head _, Run.lits _ h⟩
  obtain h | h := h.alt_inv
  · exact ⟨_, .tail _ (.head _), Run.lits _ h⟩
  obtain h | h := h.alt_inv
  · exact ⟨_, .tail _ (.tail _ (.head _)), h.chr_last⟩
  obtain h | h := h.alt_inv
  · exact ⟨_, .tail _ (.tail _ (.tail _ (.head _))), h.chr_last⟩
  · exact ⟨_, .tail _ (.tail _ (.tail _ (.tail _ (.head _)))), h.chr_last⟩

theorem replicate_four (k : Nat) :
    List.replicate (4 * (k + 1)) ' ' = [' ', ' ', ' ', ' '] ++ List.replicate (4 * k) ' ' := by
  rw [Nat.mul_succ, Nat.add_comm, ← List.replicate_append_replicate]; rfl

theorem s4_toList : "    ".toList = [' ', ' ', ' ', ' '] := by rw [String.toList_ofList]

theorem Goes.ofG2 : Goes T Model.Whitespace.G2 [' ', ' ', ' ', ' '] :=
  Goes.group 2 (s4_toList ▸ Goes.lits "    ".toList)

theorem run_G2 {s s' : St} (h : Run T Model.Whitespace.G2 s s') : s.rest = [' ', ' ', ' ', ' '] ++ s'.rest := by
  obtain ⟨s1, hr, rfl⟩ := h.group_inv
  have := Run.lits "    ".toList (s := s) (s' := s1) hr
  rwa [s4_toList] at this

theorem Goes.ofStarG2 : ∀ k : Nat, Goes T (.star Model.Whitespace.G2 true) (List.replicate (4 * k) ' ')
  | 0 => Goes.star0
  | k + 1 => replicate_four k ▸ Goes.starS Goes.ofG2 (by simp) (Goes.ofStarG2 k)

theorem run_star_G2 {g : Bool} {s s' : St} (h : Run T (.star Model.Whitespace.G2 g) s s') :
    ∃ k, s.rest = List.replicate (4 * k) ' ' ++ s'.rest := by
  obtain ⟨w, e, k, rfl⟩ := Run.star_consumed (P := fun w => ∃ k, w = List.replicate (4 * k) ' ') ⟨0, rfl⟩
    (fun h1 ⟨k, hv⟩ => ⟨_, run_G2 h1, k + 1, by rw [hv, replicate_four]⟩) h
  exact ⟨k, e⟩

def rangesDisjoint (a b : List (Nat × Nat)) : Bool :=
  a.all fun x => b.all fun y => Nat.blt x.2 y.1 || Nat.blt y.2 x.1

theorem rangesDisjoint_sound {a b : List (Nat × Nat)} (hd : rangesDisjoint a b = true) {c : Char}
    (ha : inRanges a c = true) (hb : inRanges b c = true) : False := by
  simp only [inRanges, List.any_eq_true] at ha hb
  obtain ⟨x, hx, hxc⟩ := ha
  obtain ⟨y, hy, hyc⟩ := hb
  have := List.all_eq_true.mp (List.all_eq_true.mp hd x hx) y hy
  simp only [Bool.and_eq_true, decide_eq_true_eq, Bool.or_eq_true, Nat.blt_eq] at hxc hyc this
  omega

/-- `\s` and `\w` are two tables of the pinned class tables: that no character is in both is read off them, range against
range -/
theorem space_word_disjoint : rangesDisjoint T.space T.word = true := by decide +kernel

/-- the class of group 3 of the third pattern, `\w|_|@|#` -/
def C3items : List CItem := [.word, .ch '_', .ch '@', .ch '#']

theorem c3_not_ws (c : Char) (h : clsTest T false C3items c = true) : wsT c = false := by
  simp only [clsTest, C3items, List.any_cons, List.any_nil, CItem.test, Bool.or_eq_true, beq_iff_eq, Bool.bne_false,
    Bool.or_false] at h
  rcases h with h | rfl | rfl | rfl
  · exact Bool.eq_false_iff.mpr fun hw => rangesDisjoint_sound space_word_disjoint hw h
  all_goals decide

/-- the whitespace runs on which pass 2 fires: `\s+\n\s*\n\s*\n` -/
def P2 (R : Str) : Prop := ∃ A B C : Str, A ≠ [] ∧ R = A ++ '\n' :: (B ++ '\n' :: (C ++ ['\n']))
/-- the whitespace runs on which pass 3 fires: `\s+\n\s*\n(    )+` -/
def P3 (R : Str) : Prop := ∃ (A B : Str) (k : Nat), A ≠ [] ∧ R = A ++ '\n' :: (B ++ '\n' :: List.replicate (4 * (k + 1)) ' ')

/-- the common shape of both predicates, `A \n B \n X`, is white iff its three parts are -/
theorem allWs_parts {A B X : Str} :
    AllWs wsT (A ++ '\n' :: (B ++ '\n' :: X)) ↔ AllWs wsT A ∧ AllWs wsT B ∧ AllWs wsT X :=
  ⟨fun h => ⟨fun c hc => h c (by simp [hc]), fun c hc => h c (by simp [hc]), fun c hc => h c (by simp [hc])⟩,
    fun ⟨wA, wB, wX⟩ => allWs_append wA (allWs_cons ws_nl (allWs_append wB (allWs_cons ws_nl wX)))⟩

/-- the predicates only look at the end of a run -/
theorem suffix_P2 {R' R : Str} (hs : R' <:+ R) (h : P2 R') : P2 R := by
  obtain ⟨p, rfl⟩ := hs
  obtain ⟨A, B, C, hA, rfl⟩ := h
  exact ⟨p ++ A, B, C, by simp [hA], by simp⟩

theorem suffix_P3 {R' R : Str} (hs : R' <:+ R) (h : P3 R') : P3 R := by
  obtain ⟨p, rfl⟩ := hs
  obtain ⟨A, B, k, hA, rfl⟩ := h
  exact ⟨p ++ A, B, k, by simp [hA], by simp⟩

theorem P2_ne_nil {R} (h : P2 R) : R ≠ [] := by
  obtain ⟨A, B, C, _, rfl⟩ := h
  simp

theorem P3_ne_nil {R} (h : P3 R) : R ≠ [] := by
  obtain ⟨A, B, k, _, rfl⟩ := h
  simp

/-- a run on which pass 2 fires holds three line breaks behind its first character; one on which pass 3 fires holds
two, and a space -/
theorem P2.count_tail {R} (h : P2 R) : 3 ≤ R.tail.count '\n' := by
  obtain ⟨A, B, C, hA, rfl⟩ := h
  cases A with
  | nil => exact absurd rfl hA
  | cons a A => simp [List.count_append]; omega

theorem P3.count_tail {R} (h : P3 R) : 2 ≤ R.tail.count '\n' ∧ ' ' ∈ R := by
  obtain ⟨A, B, k, hA, rfl⟩ := h
  cases A with
  | nil => exact absurd rfl hA
  | cons a A => simp [List.count_append]; omega

/-- `\s+\n\s*\n`, the common head of patterns 2 and 3, in both directions -/
theorem Goes.ofHead {A B X : Str} {tl : Re} (hA : A ≠ []) (wA : AllWs wsT A) (wB : AllWs wsT B) (h : Goes T tl X) :
    Goes T (.seq SP (.seq NL (.seq SS (.seq NL tl)))) (A ++ '\n' :: (B ++ '\n' :: X)) :=
  Goes.seq (Goes.ofSP hA wA) (Goes.seq (Goes.chr '\n') (Goes.seq (Goes.ofStarS B wB) (Goes.seq (Goes.chr '\n') h)))

theorem run_head {tl : Re} {s s' : St} (h : Run T (.seq SP (.seq NL (.seq SS (.seq NL tl)))) s s') :
    ∃ s1 A B, A ≠ [] ∧ AllWs wsT A ∧ AllWs wsT B ∧ Run T tl s1 s' ∧ s.rest = A ++ '\n' :: (B ++ '\n' :: s1.rest) := by
  obtain ⟨s1, A, hr, e1, wA, hA⟩ := Run.SP_prefix h
  obtain ⟨s2, hr, e2⟩ := Run.chr_prefix hr
  obtain ⟨s3, B, hr, e3, wB⟩ := hr.ws_prefix rfl
  obtain ⟨s4, hr, e4⟩ := Run.chr_prefix hr
  exact ⟨s4, A, B, hA, wA, wB, hr, by rw [e1, e2, e3, e4]⟩

/-- `re.sub(r"\s+\n\s*\n\s*\n(class|def|@|#|_)", r"\n\n\n\1", code)`: a match is a white stretch of the shape `P2` and
one of the five keywords; three line breaks and the keyword stay -/
theorem ws2_shape {pre rest st} (h : matchAt T ws2Re pre rest = some st) :
    ∃ R kw, AllWs wsT R ∧ P2 R ∧ kw ∈ KWs ∧ rest = R ++ (kw ++ st.rest) ∧
      expand st.caps ws2Repl = '\n' :: '\n' :: '\n' :: kw := by
  obtain ⟨s4, A, B, hA, wA, wB, hr, e1⟩ := run_head (matchAt_sound h)
  obtain ⟨s5, C, hr, e5, wC⟩ := hr.ws_prefix rfl
  obtain ⟨s6, hr, e6⟩ := Run.chr_prefix hr
  obtain ⟨s7, g, hr7, eg, rfl⟩ := hr.group_cap
  obtain ⟨kw, hkw, ekw⟩ := run_KW hr7
  obtain rfl : g = kw := List.append_cancel_right (eg ▸ ekw)
  refine ⟨A ++ '\n' :: (B ++ '\n' :: (C ++ ['\n'])), g, ?_, ⟨A, B, C, hA, rfl⟩, hkw, e1.trans ?_, ?_⟩
  · exact allWs_parts.mpr ⟨wA, wB, allWs_append wC (allWs_cons ws_nl allWs_nil)⟩
  · rw [e5, e6, eg]; simp
  · simp [ws2Repl, expand, group?_head]

theorem ws2_complete {R : Str} (hR : AllWs wsT R) (hP : P2 R) {kw : Str} (hkw : kw ∈ KWs) (pre rest : Str) :
    (matchAt T ws2Re pre (R ++ (kw ++ rest))).isSome = true := by
  obtain ⟨A, B, C, hA, rfl⟩ := hP
  obtain ⟨wA, wB, wC⟩ := allWs_parts.mp hR
  have g : Goes T ws2Re _ := Goes.ofHead hA wA wB
    (Goes.seq (Goes.ofStarS C fun c hc => wC c (by simp [hc])) (Goes.seq (Goes.chr '\n') (Goes.group 1 (Goes.ofKW kw hkw))))
  simpa [List.append_assoc] using g.matchAt_isSome noLook_ws.2.1 pre rest

/-- `re.sub(r"\s+\n\s*\n((    )+)(\w|_|@|#)", r"\n\n\1\3", code)`: a match is a white stretch of the shape `P3` and one
character of the class; two line breaks, the indentation and the character stay -/
theorem ws3_shape {pre rest st} (h : matchAt T ws3Re pre rest = some st) :
    ∃ (A B : Str) (k : Nat) (c : Char), A ≠ [] ∧ AllWs wsT A ∧ AllWs wsT B ∧ clsTest T false C3items c = true ∧
      rest = A ++ '\n' :: (B ++ '\n' :: (List.replicate (4 * (k + 1)) ' ' ++ c :: st.rest)) ∧
      expand st.caps ws3Repl = '\n' :: '\n' :: (List.replicate (4 * (k + 1)) ' ' ++ [c]) := by
  obtain ⟨s4, A, B, hA, wA, wB, hr, e1⟩ := run_head (matchAt_sound h)
  obtain ⟨s5, hg1, hg3⟩ := hr.seq_inv
  -- group 1 consumed 4(k+1) spaces, group 3 one character of the class
  obtain ⟨s5', g1, hr5, eg1, rfl⟩ := hg1.group_cap
  obtain ⟨sm, hG2, hstar⟩ := hr5.seq_inv
  obtain ⟨k, ek⟩ := run_star_G2 hstar
  obtain rfl : g1 = List.replicate (4 * (k + 1)) ' ' :=
    List.append_cancel_right (by rw [← eg1, run_G2 hG2, ek, replicate_four, List.append_assoc])
  obtain ⟨s6, g3, hr6, eg3, rfl⟩ := hg3.group_cap
  obtain ⟨d, r, hs, ht, rfl⟩ := hr6.cls_inv
  obtain rfl : g3 = [d] := List.append_cancel_right (show g3 ++ r = [d] ++ r from eg3 ▸ hs)
  refine ⟨A, B, k, d, hA, wA, wB, ht, e1.trans ?_, ?_⟩
  · rw [eg1, show s5'.rest = d :: r from hs]; simp [St.push]
  · simp [ws3Repl, expand, group?_head, group?_skip, St.push]

theorem ws3_complete {R : Str} (hR : AllWs wsT R) (hP : P3 R) {c : Char} (hc : clsTest T false C3items c = true)
    (pre rest : Str) : (matchAt T ws3Re pre (R ++ c :: rest)).isSome = true := by
  obtain ⟨A, B, k, hA, rfl⟩ := hP
  obtain ⟨wA, wB, _⟩ := allWs_parts.mp hR
  have g : Goes T ws3Re _ := Goes.ofHead hA wA wB
    (Goes.seq (Goes.group 1 (Goes.seq Goes.ofG2 (Goes.ofStarG2 k))) (Goes.group 3 (Goes.cls hc)))
  rw [replicate_four]
  simpa [List.append_assoc] using g.matchAt_isSome noLook_ws.2.2 pre rest

/-- pass 1 (`[ ]+\n` → `\n`): drop the spaces that stand right before a line break -/
def strip1 : Str → Str
  | [] => []
  | c :: cs => if c = ' ' ∧ (strip1 cs).head? = some '\n' then strip1 cs else c :: strip1 cs

theorem strip1_cons_ne (c : Char) (cs : Str) (h : c ≠ ' ') : strip1 (c :: cs) = c :: strip1 cs := by
  simp [strip1, h]

theorem strip1_nl (cs : Str) : strip1 ('\n' :: cs) = '\n' :: strip1 cs := strip1_cons_ne _ _ (by decide)

theorem strip1_spaces_nl (k : Nat) (r : Str) : strip1 (List.replicate k ' ' ++ '\n' :: r) = '\n' :: strip1 r := by
  induction k with
  | zero => simpa using strip1_nl r
  | succ k ih =>
    rw [List.replicate_succ, List.cons_append]
    simp only [strip1, ih]
    simp

theorem strip1_head_nl (cs : Str) (h : (strip1 cs).head? = some '\n') : ∃ j r, cs = List.replicate j ' ' ++ '\n' :: r := by
  fun_induction strip1 cs with
  | case1 => simp at h
  | case2 c cs hc ih =>
    obtain ⟨j, r, e⟩ := ih h
    exact ⟨j + 1, r, by rw [e, hc.1, List.replicate_succ]; rfl⟩
  | case3 c cs hc ih =>
    obtain rfl : c = '\n' := by simpa using h
    exact ⟨0, cs, rfl⟩

theorem strip1_eq_nil {s : Str} : strip1 s = [] ↔ s = [] := by
  fun_induction strip1 s with
  | case1 => simp
  | case2 c cs hc ih => simpa using fun e : strip1 cs = [] => by simp [e] at hc
  | case3 c cs hc ih => simp

theorem strip1_sublist (s : Str) : (strip1 s).Sublist s := by
  fun_induction strip1 s with
  | case1 => exact .slnil
  | case2 c cs hc ih => exact .cons c ih
  | case3 c cs hc ih => exact .cons_cons c ih

/-- `strip1` works run by run: a run followed by a token (or the end) is stripped on its own -/
theorem strip1_append (a b : Str) (hb : (strip1 b).head? ≠ some '\n') : strip1 (a ++ b) = strip1 a ++ strip1 b := by
  induction a with
  | nil => simp [strip1]
  | cons c a ih =>
    have hhead : (strip1 a ++ strip1 b).head? = some '\n' ↔ (strip1 a).head? = some '\n' := by
      cases hsa : strip1 a with
      | nil => simp [hb]
      | cons x xs => simp
    simp only [List.cons_append, strip1, ih, hhead]
    split <;> simp

theorem strip1_idem (s : Str) : strip1 (strip1 s) = strip1 s := by
  fun_induction strip1 s with
  | case1 => rfl
  | case2 c cs hc ih => exact ih
  | case3 c cs hc ih => rw [strip1, ih, if_neg hc]

theorem strip1_eq_self : ∀ {s : Str}, '\n' ∉ s → strip1 s = s
  | [], _ => rfl
  | c :: cs, h => by
    have hcs : '\n' ∉ cs := fun hm => h (List.mem_cons_of_mem _ hm)
    have : cs.head? ≠ some '\n' := fun e => hcs (List.mem_of_mem_head? e)
    simp [strip1, strip1_eq_self hcs, this]

def h1 (R _la : Str) : Str := strip1 R

theorem wsPres_h1 : WsPres wsT h1 := by
  intro R la hne hR
  exact ⟨fun h => hne (strip1_eq_nil.mp h), fun c hc => hR c ((strip1_sublist R).subset hc)⟩

/-- the text after the last line break of a run -/
def afterNl (R : Str) : Str := (R.reverse.takeWhile (fun c => c != '\n')).reverse

theorem afterNl_append (X I : Str) (hI : '\n' ∉ I) : afterNl (X ++ '\n' :: I) = I := by
  unfold afterNl
  have : (X ++ '\n' :: I).reverse = I.reverse ++ '\n' :: X.reverse := by simp
  rw [this, List.takeWhile_append_of_pos, List.takeWhile_cons_of_neg (by simp), List.append_nil, List.reverse_reverse]
  intro c hc
  simp only [bne_iff_ne, ne_eq]
  rintro rfl
  exact hI (by simpa using hc)

theorem afterNl_P3 (A B : Str) (m : Nat) :
    afterNl (A ++ '\n' :: (B ++ '\n' :: List.replicate m ' ')) = List.replicate m ' ' := by
  have : A ++ '\n' :: (B ++ '\n' :: List.replicate m ' ') = (A ++ '\n' :: B) ++ '\n' :: List.replicate m ' ' := by simp
  rw [this]
  exact afterNl_append _ _ (fun hx => absurd (List.eq_of_mem_replicate hx) (by decide))

theorem afterNl_suffix (R : Str) : afterNl R <:+ R := by
  rw [afterNl, ← List.reverse_prefix, List.reverse_reverse]
  exact List.takeWhile_prefix _

theorem afterNl_nl (R : Str) : '\n' ∉ afterNl R := fun h => by
  simpa using List.all_eq_true.mp List.all_takeWhile _ (List.mem_reverse.mp h)

def kwHead (la : Str) : Prop := ∃ kw ∈ KWs, kw <+: la
def c3Head (la : Str) : Prop := ∃ c, la.head? = some c ∧ clsTest T false C3items c = true

open Classical in
/-- pass 2: a run with three line breaks (and something before the first) in front of a top-level definition -/
noncomputable def h2 (R la : Str) : Str := if kwHead la ∧ P2 R then ['\n', '\n', '\n'] else R

open Classical in
/-- pass 3: a run with two line breaks (and something before the first) in front of an indented definition -/
noncomputable def h3 (R la : Str) : Str := if c3Head la ∧ P3 R then '\n' :: '\n' :: afterNl R else R

theorem h2_pos {R la : Str} (h : kwHead la ∧ P2 R) : h2 R la = ['\n', '\n', '\n'] := if_pos h
theorem h2_neg {R la : Str} (h : ¬ (kwHead la ∧ P2 R)) : h2 R la = R := if_neg h
theorem h3_pos {R la : Str} (h : c3Head la ∧ P3 R) : h3 R la = '\n' :: '\n' :: afterNl R := if_pos h
theorem h3_neg {R la : Str} (h : ¬ (c3Head la ∧ P3 R)) : h3 R la = R := if_neg h

theorem wsPres_h2 : WsPres wsT h2 := by
  intro R la hne hR
  by_cases c : kwHead la ∧ P2 R
  · rw [h2_pos c]
    exact ⟨by simp, allWs_cons ws_nl (allWs_cons ws_nl (allWs_cons ws_nl allWs_nil))⟩
  · rw [h2_neg c]
    exact ⟨hne, hR⟩

theorem wsPres_h3 : WsPres wsT h3 := by
  intro R la hne hR
  by_cases c : c3Head la ∧ P3 R
  · rw [h3_pos c]
    exact ⟨by simp, allWs_cons ws_nl (allWs_cons ws_nl fun c hc => hR c ((afterNl_suffix R).subset hc))⟩
  · rw [h3_neg c]
    exact ⟨hne, hR⟩

/-- the decomposition `R ++ nx` of `MapRuns.runs_induction` is unique -/
theorem run_unique {c : Char} {cs R nx : Str} (e : c :: cs = R ++ nx) (hR : AllWs wsT R) (hne : R ≠ [])
    (hn : StartsNonWs wsT nx) : R = c :: cs.takeWhile wsT ∧ nx = cs.dropWhile wsT := by
  cases R with
  | nil => exact absurd rfl hne
  | cons d R =>
    obtain ⟨rfl, rfl⟩ := List.cons.inj e
    have h := takeWhile_allws_append (ws := wsT) (fun x hx => hR x (List.mem_cons_of_mem _ hx)) hn
    exact ⟨congrArg (c :: ·) h.1.symm, h.2.symm⟩

/-- When a `re.sub` pass is a run-local rewriting `mapRuns ws h`.
(hit) Every match runs from inside a whitespace run to its end and on over a non-white piece `K` of the token behind it; the
replacement keeps `K`, and the rewriter has seen no more of that token than `K`.
(miss) Where the matcher fails on what is left of a run, the rewriter leaves every suffix of that rest alone, however much it
sees of what follows (the left-most search tries these suffixes one after the other). -/
theorem subLoop_eq_mapRuns {t : ClassTables} {ws : Char → Bool} {r : Re} {repl : List RItem} {h : Str → Str → Str}
    (hit : ∀ {pre rest st}, matchAt t r pre rest = some st →
      ∃ R K, R ≠ [] ∧ AllWs ws R ∧ K ≠ [] ∧ (∀ c ∈ K, ws c = false) ∧ rest = R ++ (K ++ st.rest) ∧
        ∀ la, K <+: la → expand st.caps repl = h R la ++ K)
    (miss : ∀ {pre R nx}, matchAt t r pre (R ++ nx) = none → AllWs ws R →
      ∀ R' la, R' <:+ R → la <+: nx → h R' la = R') :
    ∀ (n : Nat) (pre s : Str), s.length < n → subLoop t r repl n pre s = mapRuns ws h s := by
  refine subLoop_induction (motive := fun _ s out => out = mapRuns ws h s) (fun _ => (mapRuns_nil h).symm) ?_ ?_
  · -- no consuming match at `c :: cs`: the search copies `c`, and so does the pass
    intro pre c cs out hno ih
    rw [ih]
    by_cases hc : ws c = true
    · cases hm : matchAt t r pre (c :: cs) with
      | none =>
        rw [show c :: cs = (c :: cs.takeWhile ws) ++ cs.dropWhile ws by simp] at hm
        exact (mapRuns_skip_ws h hc fun R' hs =>
          miss hm (allWs_cons hc (takeWhile_allWs cs)) R' _ hs (List.takeWhile_prefix _)).symm
      | some st =>
        -- a match consumes its run: the search would have taken it
        obtain ⟨R, K, hRne, _, _, _, e, _⟩ := hit hm
        have := List.length_pos_iff.mpr hRne
        exact absurd (by rw [e]; simp only [List.length_append]; omega) (hno st hm)
    · rw [mapRuns_nonws_cons h _ (by simpa using hc)]
  · -- a match: the leading run `R` and the piece `K` of its token
    intro pre c cs st out hm _ ih
    obtain ⟨R, K, hRne, hR, hKne, hK, e, hex⟩ := hit hm
    have hsn : StartsNonWs ws (K ++ st.rest) := by
      cases K with
      | nil => exact absurd rfl hKne
      | cons d K => intro x hx; cases hx; exact hK d (by simp)
    have hla : K <+: (K ++ st.rest).takeWhile (fun d => !ws d) := by
      rw [List.takeWhile_append_of_pos fun d hd => by simp [hK d hd]]
      exact List.prefix_append _ _
    rw [ih, hex _ hla, e, mapRuns_run_append h hRne hR hsn, mapRuns_nonws_append h hK, List.append_assoc]

theorem pass2_eq : ∀ (n : Nat) (pre s : Str), s.length < n → subLoop T ws2Re ws2Repl n pre s = mapRuns wsT h2 s := by
  refine subLoop_eq_mapRuns (fun {pre rest st} hm => ?_) (fun {pre R nx} hm hR R' la hsuf hla => ?_)
  · obtain ⟨R, kw, hR, hP, hkw, e, hex⟩ := ws2_shape hm
    exact ⟨R, kw, P2_ne_nil hP, hR, (kw_nonws kw hkw).1, (kw_nonws kw hkw).2, e,
      fun la hla => by rw [hex, h2_pos ⟨⟨kw, hkw, hla⟩, hP⟩]; rfl⟩
  · refine h2_neg ?_
    rintro ⟨⟨kw, hkw, hkw'⟩, hP'⟩
    -- the text is R ++ kw ++ …: the matcher would have answered
    obtain ⟨t, rfl⟩ := hkw'.trans hla
    simpa [hm] using ws2_complete hR (suffix_P2 hsuf hP') hkw pre t

theorem pass3_eq : ∀ (n : Nat) (pre s : Str), s.length < n → subLoop T ws3Re ws3Repl n pre s = mapRuns wsT h3 s := by
  refine subLoop_eq_mapRuns (fun {pre rest st} hm => ?_) (fun {pre R nx} hm hR R' la hsuf hla => ?_)
  · obtain ⟨A, B, k, d, hA, wA, wB, hd, e, hex⟩ := ws3_shape hm
    have hP : P3 (A ++ '\n' :: (B ++ '\n' :: List.replicate (4 * (k + 1)) ' ')) := ⟨A, B, k, hA, rfl⟩
    refine ⟨_, [d], P3_ne_nil hP, allWs_parts.mpr ⟨wA, wB, allWs_replicate ' ' ws_sp _⟩, by simp,
      by simpa using c3_not_ws d hd, by simp [e], fun la hla => ?_⟩
    obtain ⟨t, rfl⟩ := hla
    rw [hex, h3_pos ⟨⟨d, rfl, hd⟩, hP⟩, afterNl_P3]
    simp
  · refine h3_neg ?_
    rintro ⟨⟨d, hd', hd⟩, hP'⟩
    obtain ⟨r', rfl⟩ := List.head?_eq_some_iff.mp hd'
    obtain ⟨t, rfl⟩ := hla
    rw [List.cons_append] at hm
    simpa [hm] using ws3_complete hR (suffix_P3 hsuf hP') hd pre (r' ++ t)

/-- the matches of pass 1 end inside a run (before the line break), so it is no instance of `subLoop_eq_mapRuns`: it is
`strip1`, and `strip1` is a pass over the runs by `strip1_mapRuns` -/
theorem pass1_eq : ∀ (n : Nat) (pre s : Str), s.length < n → subLoop T ws1Re ws1Repl n pre s = strip1 s := by
  refine subLoop_induction (motive := fun _ s out => out = strip1 s) (fun _ => by simp [strip1]) ?_ ?_
  · intro pre c cs out hno ih
    have hnot : ¬ (c = ' ' ∧ (strip1 cs).head? = some '\n') := by
      rintro ⟨hc, hh⟩
      -- spaces and a line break at the cursor: the matcher would have answered, and a match consumes
      obtain ⟨j, r, e⟩ := strip1_head_nl cs hh
      obtain ⟨st, hst⟩ := Option.isSome_iff_exists.mp (ws1_complete j pre r)
      rw [List.replicate_succ, List.cons_append, ← e, ← hc] at hst
      obtain ⟨k, ek, _⟩ := ws1_shape hst
      exact hno st hst (by rw [ek]; simp only [List.length_append, List.length_cons]; omega)
    simp [strip1, hnot, ih]
  · intro pre c cs st out hm _ ih
    obtain ⟨k, e, hex⟩ := ws1_shape hm
    rw [ih, hex, e, strip1_spaces_nl]
    simp

theorem strip1_startsNonWs {b : Str} (hb : StartsNonWs wsT b) : (strip1 b).head? ≠ some '\n' := by
  intro h
  -- such a `b` is spaces and a line break: it starts white
  obtain ⟨j, r, rfl⟩ := strip1_head_nl b h
  cases j with
  | zero => exact absurd (hb _ rfl) (by simp [ws_nl])
  | succ j => exact absurd (hb _ rfl) (by simp [ws_sp])

theorem strip1_mapRuns (s : Str) : strip1 s = mapRuns wsT h1 s := by
  induction s using runs_induction (ws := wsT) with
  | nil => simp [strip1]
  | tok c cs hc ih =>
    have hne : c ≠ ' ' := ne_of_apply_ne wsT (by simp [hc, ws_sp])
    rw [mapRuns_nonws_cons h1 _ hc, strip1_cons_ne _ _ hne, ih]
  | run R nx hne hR hnx ih =>
    rw [mapRuns_run_append h1 hne hR hnx, ← ih, strip1_append _ _ (strip1_startsNonWs hnx)]
    rfl

/-- the composed per-run rewriter of `fix_whitespace` -/
noncomputable def H (R la : Str) : Str := h3 (h2 (h1 R la) la) la

theorem wsPres_H : WsPres wsT H := wsPres_h3.comp (wsPres_h2.comp wsPres_h1)

theorem fixWhitespace_eq (s : Str) : fixWhitespace s = tailF wsT (mapRuns wsT H s) := by
  unfold fixWhitespace fixWhitespaceWith pySub
  rw [pass1_eq _ _ _ (Nat.lt_succ_self _), pass2_eq _ _ _ (Nat.lt_succ_self _), pass3_eq _ _ _ (Nat.lt_succ_self _)]
  rw [strip1_mapRuns, mapRuns_comp wsPres_h1, mapRuns_comp (wsPres_h2.comp wsPres_h1)]
  rfl

/-- both replacements, `"\n\n\n"` and `"\n\n" ++ indent`, are runs that no pass rewrites: too few line breaks behind the
first character, or no space -/
theorem nl2_fixed {Z : Str} (hZ : Z = ['\n'] ∨ '\n' ∉ Z) :
    strip1 ('\n' :: '\n' :: Z) = '\n' :: '\n' :: Z ∧ ¬ P2 ('\n' :: '\n' :: Z) ∧ ¬ P3 ('\n' :: '\n' :: Z) := by
  rcases hZ with rfl | hZ
  · exact ⟨rfl, fun hp => by simpa using hp.count_tail, fun hp => by simpa using hp.count_tail⟩
  · have hc := List.count_eq_zero.mpr hZ
    exact ⟨by rw [strip1_nl, strip1_nl, strip1_eq_self hZ], fun hp => by simpa [hc] using hp.count_tail,
      fun hp => by simpa [hc] using hp.count_tail⟩

/-- what `H` does to a run, by cases on which pass fires: pass 2 wins over pass 3, which finds no space in `"\n\n\n"` -/
theorem H_pass2 {R la : Str} (c2 : kwHead la ∧ P2 (strip1 R)) : H R la = ['\n', '\n', '\n'] := by
  rw [H, h1, h2_pos c2, h3_neg fun c => (nl2_fixed (.inl rfl)).2.2 c.2]

theorem H_pass3 {R la : Str} (c2 : ¬ (kwHead la ∧ P2 (strip1 R))) (c3 : c3Head la ∧ P3 (strip1 R)) :
    H R la = '\n' :: '\n' :: afterNl (strip1 R) := by
  rw [H, h1, h2_neg c2, h3_pos c3]

theorem H_neither {R la : Str} (c2 : ¬ (kwHead la ∧ P2 (strip1 R))) (c3 : ¬ (c3Head la ∧ P3 (strip1 R))) :
    H R la = strip1 R := by
  rw [H, h1, h2_neg c2, h3_neg c3]

theorem H_idem (R la : Str) : H (H R la) la = H R la := by
  have fixed {Z : Str} (hZ : Z = ['\n'] ∨ '\n' ∉ Z) : H ('\n' :: '\n' :: Z) la = '\n' :: '\n' :: Z := by
    obtain ⟨e1, n2, n3⟩ := nl2_fixed hZ
    rw [H_neither (fun c => n2 (e1 ▸ c.2)) (fun c => n3 (e1 ▸ c.2)), e1]
  by_cases c2 : kwHead la ∧ P2 (strip1 R)
  · rw [H_pass2 c2]
    exact fixed (.inl rfl)
  by_cases c3 : c3Head la ∧ P3 (strip1 R)
  · rw [H_pass3 c2 c3]
    exact fixed (.inr (afterNl_nl _))
  · rw [H_neither c2 c3, H_neither (by rwa [strip1_idem]) (by rwa [strip1_idem]), strip1_idem]

end GapicModel.Lemmas.FixWsRuns
