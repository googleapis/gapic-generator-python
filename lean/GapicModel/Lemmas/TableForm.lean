import Lean.Meta.Tactic.Simp.RegisterCommand

/-- The definitions between a closed test vector and a look-up in a pinned table of `String`s, and the equation that
replaces that table by its character form in `Lemmas/Tables.lean`.  A look-up hidden under a chain of calls cannot be
rewritten, and the kernel then decodes every `String` of the table (≈ 3 k heartbeats for `reservedNames`) in each
evaluation.  `simp +unfoldPartialApp only [table_form]` unfolds the chain down to the look-up and rewrites the table; the
`decide +kernel` that follows evaluates over character lists only.  (`unfold` instead of `simp` is no use here: the kernel
checks its steps by evaluating both sides.) -/
register_simp_attr table_form
