import GapicModel.Lemmas.WrapWidth
import GapicModel.Lemmas.WrapColon
/-
C20 — `gapic.utils.lines.wrap` as a whole.  What it computes is stated once (`first_line_spec`, `wrapStage_spec`,
`wrap_spec`): the first part hands a first line, and a text that line is cut from by length without losing a word, to the
second part (`Handover`).  The three results are read off `wrap_spec` in Props/C20.lean: the words of the text are kept, nothing is
raised for `offset < width`, every line fits the width or is one word.
-/
namespace GapicModel.Lemmas.WrapWhole
open GapicModel.Model.Wrap GapicModel.Lemmas.Words GapicModel.Lemmas.WrapWords
open GapicModel.Lemmas.MapRuns (AllWs allWs_nil allWs_cons allWs_append allWs_replicate)
open GapicModel.Lemmas.TextwrapWords GapicModel.Lemmas.WrapColon GapicModel.Lemmas.WrapWidth
open GapicModel.Lemmas.CodeLines (Ctx)

/-! ### the first wrapped line is a chunk-aligned prefix followed by whitespace -/

theorem before_ws_run {U V Lf W : Str} {z : Char} (h : U ++ z :: V = Lf ++ W) (hz : isAsciiWs z = false)
    (hW : ∀ a ∈ W, isAsciiWs a = true) : ∃ M, Lf = U ++ z :: M ∧ V = M ++ W := by
  rcases List.append_eq_append_iff.mp h with ⟨M, h1, h2⟩ | ⟨c', -, h2⟩
  · cases M with
    | nil => rw [hW z (show z ∈ [] ++ W from h2 ▸ List.mem_cons_self)] at hz; cases hz
    | cons m M' => obtain ⟨rfl, rfl⟩ := List.cons.inj h2; exact ⟨M', h1, rfl⟩
  · rw [hW z (by rw [h2]; simp)] at hz; cases hz

/-- the geometric core: in a text that ends in a run `W` of ASCII whitespace, an emitted line ends before `W`
and what follows the line, if anything, starts with whitespace -/
theorem cut_before_ws {k : Bool} (cs line b2 rest : List Str) (Lf W : Str)
    (hWws : ∀ a ∈ W, isAsciiWs a = true) (halt : AltFrom k cs) (hflat : cs.flatten = Lf ++ W)
    (hdec : cs = line ++ (b2 ++ rest)) (hline : line ≠ [])
    (hbl2 : ∀ c ∈ b2, isBlank T c = true)
    (hlast : b2 = [] → ∀ l, line.getLast? = some l → isBlank T l = false) :
    ∃ M, Lf = line.flatten ++ M ∧ WsHead M := by
  obtain ⟨line', x, rfl⟩ : ∃ line' x, line = line' ++ [x] := ⟨_, _, (List.dropLast_concat_getLast hline).symm⟩
  subst hdec
  obtain ⟨kx, hx⟩ := AltFrom.hom halt x (by simp)
  have hnext : ∀ y tc, b2 ++ rest = y :: tc → Hom (!kx) y := fun y tc hy =>
    AltFrom.next hx (a := line') (b := tc) (by simpa [hy] using halt)
  cases kx with
  | false =>
    -- the line ends in a character that is not in `W`, and the chunk after it, if any, is ASCII whitespace
    obtain ⟨x', a, rfl⟩ : ∃ x' a, x = x' ++ [a] := ⟨_, _, (List.dropLast_concat_getLast hx.1).symm⟩
    obtain ⟨M, hM, hMW⟩ := before_ws_run (U := line'.flatten ++ x') (z := a) (V := (b2 ++ rest).flatten)
      (by simpa using hflat) (hx.2 a (by simp)) hWws
    refine ⟨M, by simp [hM], WsHead.of_append (X := W) ?_⟩
    rw [← hMW]
    cases hy : b2 ++ rest with
    | nil => exact Or.inl rfl
    | cons y tc =>
      have hyk := hnext y tc hy
      obtain ⟨d, y', rfl⟩ := List.exists_cons_of_ne_nil hyk.1
      exact Or.inr ⟨d, _, rfl, asciiWs_ws d (hyk.2 d (by simp))⟩
  | true =>
    -- the line ends in a whitespace chunk: the chunk after it was dropped as blank (`strip() == ''`), yet is not ASCII
    -- whitespace (no-break spaces, say), so it does not lie in `W`
    cases b2 with
    | nil => have := hlast rfl x (by simp); rw [Hom.blank_of_true hx] at this; cases this
    | cons y b2' =>
      have hyk := hnext y _ rfl
      obtain ⟨d, y', rfl⟩ := List.exists_cons_of_ne_nil hyk.1
      obtain ⟨M, hM, -⟩ := before_ws_run (U := (line' ++ [x]).flatten) (z := d) (V := y' ++ (b2' ++ rest).flatten)
        (by simpa using hflat) (hyk.2 d (by simp)) hWws
      exact ⟨d :: M, hM, Or.inr ⟨d, M, rfl, (isBlank_iff _).mp (hbl2 _ List.mem_cons_self) d List.mem_cons_self⟩⟩

/-- `cut_before_ws` for the one or two blanks the line breaks behind the first line become (`hq` plays no part) -/
theorem cut_aligned {k : Bool} (cs line b2 rest : List Str) (Lf : Str) (q : Nat) (hq : q = 1 ∨ q = 2)
    (halt : AltFrom k cs) (hflat : cs.flatten = Lf ++ List.replicate q ' ')
    (hdec : cs = line ++ (b2 ++ rest)) (hline : line ≠ [])
    (hbl2 : ∀ c ∈ b2, isBlank T c = true)
    (hlast : b2 = [] → ∀ l, line.getLast? = some l → isBlank T l = false) :
    ∃ M, Lf = line.flatten ++ M ∧ ∃ d Q0, M ++ [' '] = d :: Q0 ∧ isWs T d = true := by
  obtain ⟨M, hM, hws⟩ := cut_before_ws cs line b2 rest Lf (List.replicate q ' ')
    (fun a ha => by rw [List.eq_of_mem_replicate ha]; decide) halt hflat hdec hline hbl2 hlast
  refine ⟨M, hM, ?_⟩
  rcases hws with rfl | ⟨m, M', rfl, hm⟩
  · exact ⟨' ', [], rfl, ws_sp⟩
  · exact ⟨m, M' ++ [' '], rfl, hm⟩

/-- **the first line `textwrap.wrap` emits for the first line of the text**: there is one; it is the image under
whitespace munging of a non-empty prefix `P` of the line that is followed by whitespace, and it fits `w` or is one word -/
theorem first_line_spec (L E : Str) (w : Int) (ls : List Str)
    (hE : E = ['\n'] ∨ E = ['\n', '\n']) (htab : '\t' ∉ L) (c : Char) (r : Str) (hL : L = c :: r)
    (hc : isWs T c = false) (h : textwrapWrap T (L ++ E) w [] [] = some ls) :
    ∃ P M more, ls = P.map mungeChar :: more ∧ P ≠ [] ∧ L = P ++ M ∧ WsHead M ∧ LineOK w.toNat (P.map mungeChar) := by
  obtain ⟨k, cs, lss, halt, hflat, rfl, hcut⟩ := textwrapWrap_some h
  have hnotab : '\t' ∉ L ++ E := by
    rcases hE with rfl | rfl <;> simpa using htab
  have hW : ∀ a ∈ E.map mungeChar, isAsciiWs a = true := by
    rcases hE with rfl | rfl <;> decide
  rw [munge_eq_map _ hnotab, List.map_append] at hflat
  generalize E.map mungeChar = W at hW hflat
  cases cs with
  | nil => rw [hL] at hflat; simp at hflat
  | cons c0 cs0 =>
    obtain ⟨c0', hc0e⟩ : ∃ c0', c0 = c :: c0' := by
      cases c0 with
      | nil => exact absurd rfl halt.1.1
      | cons y0 c0' =>
        rw [hL] at hflat
        simp only [List.flatten_cons, List.cons_append, List.map_cons, List.cons.injEq] at hflat
        exact ⟨c0', by rw [hflat.1, mungeChar_of_not_ws c hc]⟩
    obtain ⟨l', ls', b2, rest, hls, hdec, hok, hb2, hlast, _⟩ :=
      hcut.head_of_nonblank (by simp [isBlank, hc0e, hc])
    rw [hls]
    obtain ⟨Mm, hM, hMm⟩ := cut_before_ws (c0 :: cs0) _ b2 rest (L.map mungeChar) W hW halt
      hflat hdec (by simp) hb2 hlast
    obtain ⟨P, M, h1, h2, rfl⟩ := List.map_eq_append_iff.mp hM
    refine ⟨P, M, ls'.map fun c => [] ++ c.flatten, by simp only [renderLines, h2, List.nil_append], ?_, h1, ?_, ?_⟩
    · rintro rfl; rw [hc0e] at h2; simp at h2
    · rcases hMm with h | ⟨e, R, h, he⟩
      · exact Or.inl (List.map_eq_nil_iff.mp h)
      · obtain ⟨m, M', rfl, rfl, -⟩ := List.map_eq_cons_iff.mp h
        exact Or.inr ⟨m, M', rfl, by rwa [mungeChar_ws] at he⟩
    · rw [h2]
      simpa using rendered_ok (c0 :: l') (fun x hx => AltFrom.hom halt x (by rw [hdec]; exact List.mem_append_left _ hx))
        (by simp) w.toNat 0 (by simpa using hok)

/-- **the first line `textwrap.wrap` emits for the first line of the text** is the image of a prefix `P`
of that line under whitespace munging, and the character after `P` is whitespace -/
theorem first_line (L E : Str) (w : Int) (i0 : Str) (more : List Str)
    (hE : E = ['\n'] ∨ E = ['\n', '\n']) (htab : '\t' ∉ L) (c : Char) (r : Str) (hL : L = c :: r)
    (hc : isWs T c = false) (h : textwrapWrap T (L ++ E) w [] [] = some (i0 :: more)) :
    ∃ P d Q, L ++ ['\n'] = P ++ d :: Q ∧ i0 = P.map mungeChar ∧ isWs T d = true := by
  obtain ⟨P, M, _, hls, _, rfl, hM, _⟩ := first_line_spec L E w _ hE htab c r hL hc h
  rcases hM with rfl | ⟨e, R, rfl, he⟩
  · exact ⟨P, '\n', [], by simp, (List.cons.inj hls).1, ws_nl⟩
  · exact ⟨P, e, R ++ ['\n'], by simp, (List.cons.inj hls).1, he⟩

/-- **what the first part of `wrap` hands to the second**, for a text `text`: a first line `g` that starts with a
non-whitespace character, has no line break and is fine for `n` columns; the one or two line breaks `E` behind it;
and a text `text'` from which `g ++ E` is cut off by length, once the colon rule has run, without losing a word of
`text` -/
structure Handover (text : Str) (n : Nat) (g E text' : Str) : Prop where
  head : ∃ c r', g = c :: r' ∧ isWs T c = false
  no_nl : '\n' ∉ g
  breaks : E = ['\n'] ∨ E = ['\n', '\n']
  fits : LineOK n g
  keeps : words T g ++ words T ((colonSub text').drop (g ++ E).length) = words T text

theorem Handover.blank_breaks {text g E text' : Str} {n : Nat} (hh : Handover text n g E text') :
    AllWs (isWs T) E ∧ E ≠ [] := by
  rcases hh.breaks with rfl | rfl <;> simp [AllWs, ws_nl]

/-- the token loop at a line: the pending token is closed (`pre = [token]`, before a list item or an empty line) or
carried on (`tok = token`) -/
theorem pending_split {b : Bool} {token : Str} {pre : List Str} {tok : Str}
    (h : (if (b && decide (token ≠ [])) = true then ([token], []) else ([], token)) = (pre, tok)) :
    pre.flatten ++ tok = token ∧ ∀ x ∈ pre, x = token ∧ token ≠ [] := by
  split at h <;> cases h
  · rename_i hc
    exact ⟨by simp, fun x hx => ⟨List.mem_singleton.mp hx, of_decide_eq_true (Bool.and_eq_true_iff.mp hc).2⟩⟩
  · exact ⟨rfl, fun _ hx => nomatch hx⟩

theorem tokenize_flatten (width : Int) : ∀ (lines : List Str) (token : Str),
    (tokenize T width lines token).flatten = token ++ (lines.map (· ++ ['\n'])).flatten := by
  intro lines token
  fun_induction tokenize T width lines token with
  | case1 => rfl
  | case2 token h => simp
  | case3 line rest token pre tok h tok2 _ ih =>
    rw [List.flatten_append, List.flatten_cons, ih, ← (pending_split h).1]; simp [tok2]
  | case4 line rest token pre tok h tok2 _ ih =>
    rw [List.flatten_append, ih, ← (pending_split h).1]; simp [tok2]

theorem tokenize_last (width : Int) : ∀ (lines : List Str) (token : Str),
    (token = [] ∨ token.getLast? = some '\n') → ∀ tk ∈ tokenize T width lines token, tk.getLast? = some '\n' := by
  intro lines token
  fun_induction tokenize T width lines token with
  | case1 => intro _ tk h; cases h
  | case2 token hne => intro htok tk h; rw [List.mem_singleton.mp h]; exact htok.resolve_left hne
  | case3 line rest token pre tok h tok2 _ ih =>
    intro htok tk hmem
    rcases List.mem_append.mp hmem with hp | hp
    · obtain ⟨rfl, hne⟩ := (pending_split h).2 tk hp; exact htok.resolve_left hne
    · rcases List.mem_cons.mp hp with rfl | hp
      · simp [tok2]
      · exact ih (Or.inl rfl) tk hp
  | case4 line rest token pre tok h tok2 _ ih =>
    intro htok tk hmem
    rcases List.mem_append.mp hmem with hp | hp
    · obtain ⟨rfl, hne⟩ := (pending_split h).2 tk hp; exact htok.resolve_left hne
    · exact ih (Or.inr (by simp [tok2])) tk hp

theorem map_of_mapM_some {α β} (f : α → Option β) : ∀ (xs : List α) (ys : List β), xs.mapM f = some ys →
    xs.map f = ys.map some
  | [], ys, h => by cases h; rfl
  | x :: xs, ys, h => by
    rw [List.mapM_cons] at h
    obtain ⟨y, hy, h⟩ := Option.bind_eq_some_iff.mp h
    obtain ⟨ys', hys, h⟩ := Option.bind_eq_some_iff.mp h
    cases h
    rw [List.map_cons, hy, map_of_mapM_some f xs ys' hys]; rfl

theorem mapM_isSome {α β} (f : α → Option β) (hf : ∀ x, (f x).isSome = true) (xs : List α) :
    (xs.mapM f).isSome = true := by
  have : f = fun x => pure ((f x).get (hf x)) := funext fun x => (Option.some_get _).symm
  rw [this, List.mapM_pure]; rfl

theorem mapM_words (f : Str → Option Str) (hf : ∀ tk o, f tk = some o → words T o = words T tk) :
    ∀ (tokens fs : List Str), tokens.map f = fs.map some → (fs.map (words T)).flatten = (tokens.map (words T)).flatten
  | [], [], _ => rfl
  | tk :: tks, o :: os, h => by
    simp only [List.map_cons, List.cons.injEq] at h
    simp only [List.map_cons, List.flatten_cons, hf tk o h.1, mapM_words f hf tks os h.2]

/-- `textwrap.fill` as `wrap` calls it on a token -/
def fillTok (width : Int) (indent : Nat) (token : Str) : Option Str :=
  textwrapFill T token width (List.replicate indent ' ')
    (List.replicate indent ' ' ++ List.replicate (subsequentLevel T (strip T token)) ' ')

theorem fillTok_words {width : Int} {indent : Nat} (tk o : Str) (h : fillTok width indent tk = some o) :
    words T o = words T tk :=
  fill_words tk width _ _ (allWs_replicate ' ' ws_sp _)
    (allWs_append (allWs_replicate ' ' ws_sp _) (allWs_replicate ' ' ws_sp _)) o h

theorem fillTok_lines {width : Int} {indent : Nat} (tk o : Str) (h : fillTok width indent tk = some o) :
    ∀ l ∈ Lines o, LineOK width.toNat l := by
  rw [fillTok, List.replicate_append_replicate] at h
  exact fill_lines_ok tk width _ _ o h

/-- **the second part of `wrap` in two cases**: nothing is left after the first line and the result is the
stripped first line; or what is left (stripped, behind a blank `nlb`) is tokenised, filled and joined -/
theorem wrapTail_cases (first text : Str) (width : Int) (indent : Nat) :
    ((colonSub text).drop first.length = [] ∧ wrapTail T first text width indent = some (strip T first)) ∨
    ∃ nlb, AllWs (isWs T) nlb ∧ wrapTail T first text width indent =
      ((tokenize T width (splitOn '\n' (nlb ++ strip T ((colonSub text).drop first.length))) []).mapM
        (fillTok width indent)).map fun fs => rstripChar '\n' (first ++ joinWith ['\n'] fs) := by
  unfold wrapTail
  rw [pySub_colon]
  dsimp only
  by_cases h4 : (colonSub text).drop first.length = []
  · exact Or.inl ⟨h4, if_pos h4⟩
  · refine Or.inr ⟨if ((colonSub text).drop first.length).head? = some '\n' then ['\n'] else [], ?_, ?_⟩
    · split
      · exact allWs_cons ws_nl allWs_nil
      · exact allWs_nil
    · rw [if_neg h4]
      unfold fillTok
      split <;> rename_i h <;> rw [h] <;> rfl

theorem wrapTail_words {text0 g E text : Str} {n : Nat} (hh : Handover text0 n g E text) {width : Int} {indent : Nat}
    {out : Str} (h : wrapTail T (g ++ E) text width indent = some out) : words T out = words T text0 := by
  have hEb := hh.blank_breaks
  rw [← hh.keeps]
  rcases wrapTail_cases (g ++ E) text width indent with ⟨h4, he⟩ | ⟨nlb, hnlb, he⟩
  · obtain rfl := Option.some.inj (he.symm.trans h)
    rw [h4, strip_words, words_append_blank T g E hEb.1, words_nil, List.append_nil]
  · obtain ⟨fs, hfs, rfl⟩ := Option.map_eq_some_iff.mp (he.symm.trans h)
    -- outside in: the first line and its breaks are blank-separated from the rest; each filled token keeps its words; the tokens
    -- flatten back to the lines of the text, which join to the text and a line break
    rw [rstripChar_nl_words, words_append_blank_append T g E _ hEb.1 hEb.2, words_joinWith_nl,
      mapM_words _ fillTok_words _ fs (map_of_mapM_some _ _ fs hfs),
      ← words_flatten_sep _ (tokenize_last width _ [] (Or.inl rfl)),
      tokenize_flatten, List.nil_append, splitOn_eq, Split.flatten_map_snoc '\n' (List.splitOn_ne_nil '\n' _),
      List.intercalate_splitOn, words_snoc_ws T _ '\n' ws_nl, words_blank_append T nlb hnlb, strip_words]

theorem wrapTail_isSome (first text : Str) (width : Int) (indent : Nat) (hw : 0 < width) :
    (wrapTail T first text width indent).isSome = true := by
  rcases wrapTail_cases first text width indent with ⟨-, he⟩ | ⟨nlb, -, he⟩
  · rw [he]; rfl
  · rw [he, Option.isSome_map]
    exact mapM_isSome _ (fun tk => by simp [fillTok, textwrapFill, Option.isSome_iff_ne_none, textwrapWrap_eq_none, hw]) _

theorem lines_ok_of_cons {s g : Str} {rest : List Str} {n0 w : Nat} (hs : Lines s = g :: rest) (h0 : LineOK n0 g)
    (hn0 : n0 ≤ w) (hrest : ∀ l ∈ rest, LineOK w l) :
    (∀ l ∈ Lines s, LineOK w l) ∧ (∀ l0, (Lines s).head? = some l0 → LineOK n0 l0) := by
  rw [hs]
  exact ⟨fun l hl => (List.mem_cons.mp hl).elim (· ▸ h0.mono hn0) (hrest l), fun l0 hl0 => Option.some.inj hl0 ▸ h0⟩

theorem wrapTail_lines {text0 g E text : Str} {n0 : Nat} (hh : Handover text0 n0 g E text) {width : Int} {indent : Nat}
    {out : Str} (hn0 : n0 ≤ width.toNat) (h : wrapTail T (g ++ E) text width indent = some out) :
    (∀ l ∈ Lines out, LineOK width.toNat l) ∧ (∀ l0, (Lines out).head? = some l0 → LineOK n0 l0) := by
  have hEb := hh.blank_breaks.1
  obtain ⟨hhead, hnl, hE, h0, -⟩ := hh
  rcases wrapTail_cases (g ++ E) text width indent with ⟨-, he⟩ | ⟨nlb, -, he⟩
  · -- nothing left after the first line: the result is `first.strip()`
    obtain rfl := Option.some.inj (he.symm.trans h)
    rw [strip_first g E hhead hEb]
    obtain ⟨b, hb, -, -⟩ := MapRuns.rstripW_split (ws := isWs T) g
    exact lines_ok_of_cons (lines_no_nl fun hm => hnl (hb ▸ List.mem_append_left _ hm))
      (LineOK.prefix_of (hb ▸ h0)) hn0 (fun _ h => nomatch h)
  · obtain ⟨fs, hfs, rfl⟩ := Option.map_eq_some_iff.mp (he.symm.trans h)
    -- the lines before stripping: `g`, an empty line if there are two line breaks, the lines of the filled tokens
    have hsplit : Lines (g ++ E ++ joinWith ['\n'] fs) = g :: Lines (E.tail ++ joinWith ['\n'] fs) := by
      have : g ++ E ++ joinWith ['\n'] fs = g ++ '\n' :: (E.tail ++ joinWith ['\n'] fs) := by
        rcases hE with rfl | rfl <;> simp
      rw [this, lines_append_nl, lines_no_nl hnl]; rfl
    have hrest : ∀ l ∈ Lines (E.tail ++ joinWith ['\n'] fs), LineOK width.toNat l := by
      intro l hl
      have hl' : l = [] ∨ l ∈ Lines (joinWith ['\n'] fs) := by
        rcases hE with rfl | rfl
        · exact Or.inr (by simpa using hl)
        · rw [List.tail_cons, List.singleton_append, lines_nl_cons] at hl
          exact List.mem_cons.mp hl
      rcases hl'.elim Or.inl (lines_join_mem fs l) with rfl | ⟨o, ho, hlo⟩
      · exact LineOK.nil _
      · obtain ⟨tk, _, hf⟩ := List.mem_map.mp (map_of_mapM_some _ _ fs hfs ▸ List.mem_map_of_mem (f := some) ho)
        exact fillTok_lines tk o hf l hlo
    obtain ⟨hall, hfirst⟩ := lines_ok_of_cons hsplit h0 hn0 hrest
    obtain ⟨hsub, hsame⟩ := lines_rstripChar (g ++ E ++ joinWith ['\n'] fs)
    exact ⟨fun l hl => hall l (hsub l hl), fun l0 hl0 => hfirst l0 (hsame ▸ hl0)⟩

theorem endsWith_colon (L : Str) : endsWith (L ++ ['\n']) [':', '\n'] = true ↔ L.getLast? = some ':' := by
  rw [endsWith, List.isSuffixOf_iff_suffix, ← List.singleton_suffix_iff_getLast?_eq_some]
  exact (List.suffix_append_inj_of_length_eq (l₁ := [':']) (s₁ := ['\n']) rfl).trans (and_iff_left rfl)

/-- the colon case of the short branch: `first` is `L ++ "\n\n"` with `L` ending in `:` -/
theorem colonSub_cut2 (L0 R : Str) (hnl : '\n' ∉ L0) :
    words T ((colonSub (L0 ++ ':' :: '\n' :: R)).drop (L0.length + 3)) = words T R := by
  obtain ⟨Z, hZ, -, h⟩ := colonSub_after_colon R
  rw [colonSub_prefix L0 _ hnl (Or.inr (by simp)), hZ, List.drop_length_add_append]
  exact h

/-- **cutting the text after a first line that fits**: with `L` the first line and `E` the one or two line breaks
`wrap` puts behind it (two only when `L` ends in a colon, where the colon rule inserts the second one into the text
as well), dropping `|L ++ E|` characters after the colon rule has run loses no word -/
theorem cut_line (L E tl : Str) (hnl : '\n' ∉ L) (htl : tl = [] ∨ ∃ R, tl = '\n' :: R)
    (hE : E = ['\n'] ∨ E = ['\n', '\n'] ∧ L.getLast? = some ':') :
    words T L ++ words T ((colonSub (L ++ tl)).drop (L ++ E).length) = words T (L ++ tl) := by
  rcases hE with rfl | ⟨rfl, hcol⟩
  · rw [List.length_append]
    exact cut_words L tl hnl (htl.imp_right fun ⟨R, e⟩ => ⟨'\n', R, e, ws_nl⟩)
  · rcases htl with rfl | ⟨R, rfl⟩
    · rw [List.append_nil, colonSub_no_nl L hnl, List.drop_of_length_le (by simp), words_nil, List.append_nil]
    · obtain ⟨L0, rfl⟩ := List.getLast?_eq_some_iff.mp hcol
      have := colonSub_cut2 L0 R fun h => hnl (List.mem_append_left _ h)
      rw [words_append_ws T (L0 ++ [':']) '\n' ws_nl R]
      simp only [List.append_assoc, List.singleton_append, List.length_append, List.length_cons, List.length_nil] at this ⊢
      rw [this]

/-- **cutting the text after a first line that was wrapped**: of the first line `P ++ M` the part `P` was kept, and `M`
starts with whitespace if it is not empty; the text, with its first line break replaced by a blank
(`text.replace("\n", " ", 1)`) or not, is cut after `P` and one more character -/
theorem cut_wrapped (P M tl t' : Str) (hnl : '\n' ∉ P ++ M) (hM : WsHead M) (htl : tl = [] ∨ ∃ R, tl = '\n' :: R)
    (ht' : t' = P ++ M ++ tl ∨ t' = replaceFirst '\n' [' '] (P ++ M ++ tl)) :
    words T P ++ words T ((colonSub t').drop (P.length + 1)) = words T (P ++ M ++ tl) := by
  obtain ⟨tl', rfl, htl', hw⟩ : ∃ tl', t' = P ++ M ++ tl' ∧ WsHead tl' ∧ words T t' = words T (P ++ M ++ tl) := by
    rcases ht' with rfl | rfl
    · exact ⟨tl, rfl, htl.imp_right fun ⟨R, e⟩ => ⟨'\n', R, e, ws_nl⟩, rfl⟩
    · refine ⟨replaceFirst '\n' [' '] tl, replaceFirst_append _ tl hnl, ?_, Ctx.eq (replaceFirst_eqv _)⟩
      rcases htl with rfl | ⟨R, rfl⟩
      · exact Or.inl rfl
      · exact Or.inr ⟨' ', R, by simp [replaceFirst], ws_sp⟩
  rw [← hw, List.append_assoc]
  exact cut_words P (M ++ tl') (fun h => hnl (List.mem_append_left _ h)) (hM.append htl')

/-- **what the first part of `wrap` computes** for a text that starts with a non-whitespace character and has no tab:
`textwrap` refuses the width, or the first line handed over is the first line `L` of the text, when it fits
`width - offset` with its line breaks, else the first line `textwrap.wrap` emits for `L` (the munged image of a
prefix of `L` that is followed by whitespace) -/
theorem wrapStage_spec (text : Str) (width offset : Int) (c : Char) (r : Str)
    (hcr : text = c :: r) (hc : isWs T c = false) (htab : '\t' ∉ text) :
    (width - offset ≤ 0 ∧ wrapStage T text width offset = none) ∨
    ∃ g E text', wrapStage T text width offset = some (g ++ E, text') ∧
      Handover text (width - offset).toNat g E text' := by
  obtain ⟨L, tl, htext, hLhead, hnl, htl⟩ := Split.splitOn_head '\n' text
  obtain ⟨r', hLr⟩ : ∃ r', L = c :: r' :=
    ⟨_, by rw [← hLhead, hcr, Split.splitOn_cons, if_neg fun e => by rw [e, ws_nl] at hc; cases hc]; rfl⟩
  rw [← splitOn_eq] at hLhead
  have htabL : '\t' ∉ L := fun h => htab (htext ▸ List.mem_append_left _ h)
  obtain ⟨E, hE1, hE2⟩ : ∃ E, (if endsWith (L ++ ['\n']) [':', '\n'] then L ++ ['\n'] ++ ['\n'] else L ++ ['\n']) = L ++ E ∧
      (E = ['\n'] ∨ E = ['\n', '\n'] ∧ L.getLast? = some ':') := by
    split
    · rename_i h; exact ⟨_, List.append_assoc .., Or.inr ⟨rfl, (endsWith_colon L).mp h⟩⟩
    · exact ⟨_, rfl, Or.inl rfl⟩
  have hE : E = ['\n'] ∨ E = ['\n', '\n'] := hE2.imp_right (·.1)
  unfold wrapStage
  dsimp only
  rw [hLhead, hE1]
  -- (`split` on a goal of this size costs twice the rest of the proof)
  by_cases hfit : ((L ++ E).length : Int) > width - offset
  · rw [if_pos hfit]
    cases hw : textwrapWrap T (L ++ E) (width - offset) [] [] with
    | none => exact Or.inl ⟨textwrapWrap_eq_none.mp hw, rfl⟩
    | some ls =>
      obtain ⟨P, M, more, rfl, hP, rfl, hM, hok⟩ := first_line_spec L E _ ls hE htabL c r' hLr hc hw
      obtain ⟨p, P', rfl⟩ := List.exists_cons_of_ne_nil hP
      obtain ⟨rfl, -⟩ := List.cons.inj hLr
      refine Or.inr ⟨_, _, _, rfl,
        { head := ⟨p, _, by rw [List.map_cons, mungeChar_of_not_ws p hc], hc⟩
          no_nl := fun hm => let ⟨x, _, hx⟩ := List.mem_map.mp hm; mungeChar_ne_nl x hx
          breaks := Or.inl rfl
          fits := hok
          keeps := ?_ }⟩
      rw [Ctx.eq (map_mungeChar_eqv _), List.length_append, List.length_map, htext]
      refine cut_wrapped _ M tl _ hnl hM htl ?_
      split
      · split <;> simp
      · simp
  · rw [if_neg hfit]
    refine Or.inr ⟨L, E, text, rfl,
      { head := ⟨c, r', hLr, hc⟩
        no_nl := hnl
        breaks := hE
        fits := Or.inl (by simp only [List.length_append] at hfit; omega)
        keeps := by rw [htext]; exact cut_line L E tl hnl htl hE2 }⟩

/-- the text handed to the first part of `wrap`: starts with a non-whitespace character, has no tab, same words -/
theorem prepared (text : Str) (c : Char) (r : Str) (h0 : lstrip T text = c :: r) :
    ∃ r2, expandTabs (replace2 '\n' ' ' ['\n'] (lstrip T text)) 0 = c :: r2 ∧ isWs T c = false ∧ '\t' ∉ c :: r2 ∧
      words T (c :: r2) = words T text := by
  have hc := lstrip_head text c r h0
  obtain ⟨r1, hr1⟩ := replace2_head c r fun e => by rw [e, ws_nl] at hc; cases hc
  obtain ⟨r2, hr2⟩ := expandTabs_head c r1 0 hc
  refine ⟨r2, by rw [h0, hr1, hr2], hc, hr2 ▸ expandTabs_no_tab _ 0, ?_⟩
  rw [← hr2, Ctx.eq (expandTabs_eqv _ 0), ← hr1, Ctx.eq (replace2_eqv _), ← h0, lstrip_words]

/-- **what `wrap` computes**: a blank text gives the empty string; `textwrap` may refuse the width left for a first
line that does not fit; otherwise the second part of `wrap` runs on what the first part hands over -/
theorem wrap_spec (text : Str) (width : Int) (offset : Option Int) (indent : Nat) :
    (lstrip T text = [] ∧ wrap T text width offset indent = some []) ∨
    (width - offset.getD indent ≤ 0 ∧ wrap T text width offset indent = none) ∨
    ∃ g E text', Handover text (width - offset.getD indent).toNat g E text' ∧
      wrap T text width offset indent = wrapTail T (g ++ E) text' width indent := by
  rw [wrap]
  by_cases h0 : lstrip T text = []
  · exact Or.inl ⟨h0, if_pos h0⟩
  · obtain ⟨c, r, hcr⟩ := List.exists_cons_of_ne_nil h0
    obtain ⟨r2, h2, hc, htab, hw⟩ := prepared text c r hcr
    rw [if_neg h0]
    dsimp only
    rw [h2]
    right
    rcases wrapStage_spec (c :: r2) width (offset.getD indent) c r2 rfl hc htab with
      ⟨hw0, hn⟩ | ⟨g, E, text', hs, hh⟩
    · exact Or.inl ⟨hw0, by rw [hn]⟩
    · exact Or.inr ⟨g, E, text', { hh with keeps := hh.keeps.trans hw }, by rw [hs]⟩

end GapicModel.Lemmas.WrapWhole
